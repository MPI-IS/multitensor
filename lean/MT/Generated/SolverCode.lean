/- GENERATED by tools/gen_from_source.py (tools/cxx2lean.py) from include/multitensor/solver.hpp — do not edit.
   Statement-by-statement translation of the loop nests of `update_vertices`, `update_affinity` and
   `calculate_likelyhood`.  Each C++ local assigned inside the loops is a field of the state structure;
   every assignment is one structure update; loops are left folds (MT/Imp.lean).  That these loops compute
   the model's entry formulas is proved in MTProofs/CodeRefine{UV,UW,LK}.lean for every scalar type. -/
import MT.Scalar
import MT.Imp
set_option linter.unusedVariables false
namespace MT.Gen
open MT MT.Imp

/-- graph.hpp: what the two edge/vertex proxies return (whitespace removed) -/
def proxyOut : String := "returnboost::out_edges(i,g);|returnboost::target(*eit,g);"
def proxyIn : String := "returnboost::in_edges(i,g);|returnboost::source(*eit,g);"

/-- locals of `update_vertices` assigned inside its loops, and the matrix it updates -/
structure UVLoc (α : Type) where
  Z : α
  D : α
  w_k : α
  val_ik : α
  rho_ijkq : α
  Zij_a : α
  mat_to_update : Nat → Nat → α

section
variable {α : Type} [Add α] [Sub α] [Mul α] [Div α] [LT α] [DecidableLT α] [MTExtra α]
def updateVerticesCode_1_1 (assortative : Bool) (nof_groups nof_layers : Nat) (numerator_list denominator_list : List Nat)
    (edges : Nat → Nat → List Nat) (w2 : Nat → Nat → α) (w3 : Nat → Nat → Nat → α)
    (mat_to_update_old mat_fixed_old : Nat → Nat → α) (k : Nat) (a : Nat) (s : UVLoc α) : UVLoc α :=
  let s : UVLoc α := { s with w_k := s.w_k + (w2 k a) }
  s

def updateVerticesCode_1_2 (assortative : Bool) (nof_groups nof_layers : Nat) (numerator_list denominator_list : List Nat)
    (edges : Nat → Nat → List Nat) (w2 : Nat → Nat → α) (w3 : Nat → Nat → Nat → α)
    (mat_to_update_old mat_fixed_old : Nat → Nat → α) (k : Nat) (i : Nat) (s : UVLoc α) : UVLoc α :=
  let s : UVLoc α := { s with D := s.D + (mat_fixed_old i k) }
  s

def updateVerticesCode_1_3_1 (assortative : Bool) (nof_groups nof_layers : Nat) (numerator_list denominator_list : List Nat)
    (edges : Nat → Nat → List Nat) (w2 : Nat → Nat → α) (w3 : Nat → Nat → Nat → α)
    (mat_to_update_old mat_fixed_old : Nat → Nat → α) (k : Nat) (l : Nat) (a : Nat) (s : UVLoc α) : UVLoc α :=
  let s : UVLoc α := { s with w_k := s.w_k + (w3 k l a) }
  s

def updateVerticesCode_1_3_2 (assortative : Bool) (nof_groups nof_layers : Nat) (numerator_list denominator_list : List Nat)
    (edges : Nat → Nat → List Nat) (w2 : Nat → Nat → α) (w3 : Nat → Nat → Nat → α)
    (mat_to_update_old mat_fixed_old : Nat → Nat → α) (k : Nat) (l : Nat) (i : Nat) (s : UVLoc α) : UVLoc α :=
  let s : UVLoc α := { s with D := s.D + (mat_fixed_old i l) }
  s

def updateVerticesCode_1_3 (assortative : Bool) (nof_groups nof_layers : Nat) (numerator_list denominator_list : List Nat)
    (edges : Nat → Nat → List Nat) (w2 : Nat → Nat → α) (w3 : Nat → Nat → Nat → α)
    (mat_to_update_old mat_fixed_old : Nat → Nat → α) (k : Nat) (l : Nat) (s : UVLoc α) : UVLoc α :=
  let s : UVLoc α := { s with D := MTExtra.zero }
  let s : UVLoc α := { s with w_k := s.D }
  let s : UVLoc α := forRange nof_layers (updateVerticesCode_1_3_1 assortative nof_groups nof_layers numerator_list denominator_list edges w2 w3 mat_to_update_old mat_fixed_old k l) s
  let s : UVLoc α := forList denominator_list (updateVerticesCode_1_3_2 assortative nof_groups nof_layers numerator_list denominator_list edges w2 w3 mat_to_update_old mat_fixed_old k l) s
  let s : UVLoc α := { s with Z := s.Z + (s.w_k * s.D) }
  s

def updateVerticesCode_1_4_1_1_1_1 (assortative : Bool) (nof_groups nof_layers : Nat) (numerator_list denominator_list : List Nat)
    (edges : Nat → Nat → List Nat) (w2 : Nat → Nat → α) (w3 : Nat → Nat → Nat → α)
    (mat_to_update_old mat_fixed_old : Nat → Nat → α) (k : Nat) (i : Nat) (a : Nat) (j : Nat) (m : Nat) (l : Nat) (s : UVLoc α) : UVLoc α :=
  let s : UVLoc α := { s with Zij_a := s.Zij_a + (((mat_to_update_old i m) * (mat_fixed_old j l)) * (w3 m l a)) }
  s

def updateVerticesCode_1_4_1_1_1 (assortative : Bool) (nof_groups nof_layers : Nat) (numerator_list denominator_list : List Nat)
    (edges : Nat → Nat → List Nat) (w2 : Nat → Nat → α) (w3 : Nat → Nat → Nat → α)
    (mat_to_update_old mat_fixed_old : Nat → Nat → α) (k : Nat) (i : Nat) (a : Nat) (j : Nat) (m : Nat) (s : UVLoc α) : UVLoc α :=
  let s : UVLoc α := (if assortative then
      let s : UVLoc α := { s with Zij_a := s.Zij_a + (((mat_to_update_old i m) * (mat_fixed_old j m)) * (w2 m a)) }
      s
    else
      let s : UVLoc α := forRange nof_groups (updateVerticesCode_1_4_1_1_1_1 assortative nof_groups nof_layers numerator_list denominator_list edges w2 w3 mat_to_update_old mat_fixed_old k i a j m) s
      s)
  s

def updateVerticesCode_1_4_1_1_2 (assortative : Bool) (nof_groups nof_layers : Nat) (numerator_list denominator_list : List Nat)
    (edges : Nat → Nat → List Nat) (w2 : Nat → Nat → α) (w3 : Nat → Nat → Nat → α)
    (mat_to_update_old mat_fixed_old : Nat → Nat → α) (k : Nat) (i : Nat) (a : Nat) (j : Nat) (q : Nat) (s : UVLoc α) : UVLoc α :=
  let s : UVLoc α := { s with rho_ijkq := s.rho_ijkq + ((mat_fixed_old j q) * (w3 k q a)) }
  s

def updateVerticesCode_1_4_1_1 (assortative : Bool) (nof_groups nof_layers : Nat) (numerator_list denominator_list : List Nat)
    (edges : Nat → Nat → List Nat) (w2 : Nat → Nat → α) (w3 : Nat → Nat → Nat → α)
    (mat_to_update_old mat_fixed_old : Nat → Nat → α) (k : Nat) (i : Nat) (a : Nat) (j : Nat) (s : UVLoc α) : UVLoc α :=
  let s : UVLoc α := { s with Zij_a := MTExtra.zero }
  let s : UVLoc α := { s with rho_ijkq := s.Zij_a }
  let s : UVLoc α := forRange nof_groups (updateVerticesCode_1_4_1_1_1 assortative nof_groups nof_layers numerator_list denominator_list edges w2 w3 mat_to_update_old mat_fixed_old k i a j) s
  let s : UVLoc α := (if MTExtra.eps < s.Zij_a then
      let s : UVLoc α := (if assortative then
          let s : UVLoc α := { s with rho_ijkq := s.rho_ijkq + ((mat_fixed_old j k) * (w2 k a)) }
          s
        else
          let s : UVLoc α := forRange nof_groups (updateVerticesCode_1_4_1_1_2 assortative nof_groups nof_layers numerator_list denominator_list edges w2 w3 mat_to_update_old mat_fixed_old k i a j) s
          s)
      let s : UVLoc α := { s with rho_ijkq := s.rho_ijkq / s.Zij_a }
      let s : UVLoc α := { s with val_ik := s.val_ik + s.rho_ijkq }
      s
    else
      s)
  s

def updateVerticesCode_1_4_1 (assortative : Bool) (nof_groups nof_layers : Nat) (numerator_list denominator_list : List Nat)
    (edges : Nat → Nat → List Nat) (w2 : Nat → Nat → α) (w3 : Nat → Nat → Nat → α)
    (mat_to_update_old mat_fixed_old : Nat → Nat → α) (k : Nat) (i : Nat) (a : Nat) (s : UVLoc α) : UVLoc α :=
  let s : UVLoc α := forList (edges a i) (updateVerticesCode_1_4_1_1 assortative nof_groups nof_layers numerator_list denominator_list edges w2 w3 mat_to_update_old mat_fixed_old k i a) s
  s

def updateVerticesCode_1_4 (assortative : Bool) (nof_groups nof_layers : Nat) (numerator_list denominator_list : List Nat)
    (edges : Nat → Nat → List Nat) (w2 : Nat → Nat → α) (w3 : Nat → Nat → Nat → α)
    (mat_to_update_old mat_fixed_old : Nat → Nat → α) (k : Nat) (i : Nat) (s : UVLoc α) : UVLoc α :=
  let s : UVLoc α := (if MTExtra.eps < (mat_to_update_old i k) then
      let s : UVLoc α := { s with val_ik := MTExtra.zero }
      let s : UVLoc α := forRange nof_layers (updateVerticesCode_1_4_1 assortative nof_groups nof_layers numerator_list denominator_list edges w2 w3 mat_to_update_old mat_fixed_old k i) s
      let s : UVLoc α := { s with mat_to_update := setAt2 s.mat_to_update i k (((mat_to_update_old i k) / s.Z) * s.val_ik) }
      let s : UVLoc α := (if (MTExtra.abs (s.mat_to_update i k)) < MTExtra.eps then
          let s : UVLoc α := { s with mat_to_update := setAt2 s.mat_to_update i k MTExtra.zero }
          s
        else
          s)
      s
    else
      s)
  s

def updateVerticesCode_1 (assortative : Bool) (nof_groups nof_layers : Nat) (numerator_list denominator_list : List Nat)
    (edges : Nat → Nat → List Nat) (w2 : Nat → Nat → α) (w3 : Nat → Nat → Nat → α)
    (mat_to_update_old mat_fixed_old : Nat → Nat → α) (k : Nat) (s : UVLoc α) : UVLoc α :=
  let s : UVLoc α := { s with Z := MTExtra.zero }
  let s : UVLoc α := (if assortative then
      let s : UVLoc α := { s with D := MTExtra.zero }
      let s : UVLoc α := { s with w_k := s.D }
      let s : UVLoc α := forRange nof_layers (updateVerticesCode_1_1 assortative nof_groups nof_layers numerator_list denominator_list edges w2 w3 mat_to_update_old mat_fixed_old k) s
      let s : UVLoc α := forList denominator_list (updateVerticesCode_1_2 assortative nof_groups nof_layers numerator_list denominator_list edges w2 w3 mat_to_update_old mat_fixed_old k) s
      let s : UVLoc α := { s with Z := s.Z + (s.w_k * s.D) }
      s
    else
      let s : UVLoc α := forRange nof_groups (updateVerticesCode_1_3 assortative nof_groups nof_layers numerator_list denominator_list edges w2 w3 mat_to_update_old mat_fixed_old k) s
      s)
  let s : UVLoc α := (if MTExtra.eps < s.Z then
      let s : UVLoc α := forList numerator_list (updateVerticesCode_1_4 assortative nof_groups nof_layers numerator_list denominator_list edges w2 w3 mat_to_update_old mat_fixed_old k) s
      s
    else
      s)
  s

/-- loop nest of `update_vertices`; `edges a i` = the vertices the proxy yields for vertex `i` in layer `a`; `mat_to_update_old`, `mat_fixed_old` are the frozen copies made before the loops -/
def updateVerticesCode (assortative : Bool) (nof_groups nof_layers : Nat) (numerator_list denominator_list : List Nat)
    (edges : Nat → Nat → List Nat) (w2 : Nat → Nat → α) (w3 : Nat → Nat → Nat → α)
    (mat_to_update_old mat_fixed_old : Nat → Nat → α) (s : UVLoc α) : UVLoc α :=
  let s : UVLoc α := forRange nof_groups (updateVerticesCode_1 assortative nof_groups nof_layers numerator_list denominator_list edges w2 w3 mat_to_update_old mat_fixed_old) s
  s
end

/-- every container access of the loop nest of `update_vertices` is inside its container (the three matrices are nof_vertices x nof_groups, the affinity tensor nof_groups (x nof_groups) x nof_layers) -/
def updateVerticesCode_safe (nof_groups nof_layers nof_vertices : Nat) (numerator_list denominator_list : List Nat) (edges : Nat → Nat → List Nat) : Prop :=
     (∀ k, k < nof_groups → ∀ a, a < nof_layers → (k < nof_groups ∧ a < nof_layers))
   ∧ (∀ k, k < nof_groups → ∀ i, i ∈ denominator_list → (i < nof_vertices ∧ k < nof_groups))
   ∧ (∀ k, k < nof_groups → ∀ l, l < nof_groups → ∀ a, a < nof_layers → (k < nof_groups ∧ l < nof_groups ∧ a < nof_layers))
   ∧ (∀ k, k < nof_groups → ∀ l, l < nof_groups → ∀ i, i ∈ denominator_list → (i < nof_vertices ∧ l < nof_groups))
   ∧ (∀ k, k < nof_groups → ∀ i, i ∈ numerator_list → (i < nof_vertices ∧ k < nof_groups))
   ∧ (∀ k, k < nof_groups → ∀ i, i ∈ numerator_list → ∀ a, a < nof_layers → (a < nof_layers))
   ∧ (∀ k, k < nof_groups → ∀ i, i ∈ numerator_list → ∀ a, a < nof_layers → (i < nof_vertices))
   ∧ (∀ k, k < nof_groups → ∀ i, i ∈ numerator_list → ∀ a, a < nof_layers → ∀ j, j ∈ (edges a i) → ∀ m, m < nof_groups → (i < nof_vertices ∧ m < nof_groups))
   ∧ (∀ k, k < nof_groups → ∀ i, i ∈ numerator_list → ∀ a, a < nof_layers → ∀ j, j ∈ (edges a i) → ∀ m, m < nof_groups → (j < nof_vertices ∧ m < nof_groups))
   ∧ (∀ k, k < nof_groups → ∀ i, i ∈ numerator_list → ∀ a, a < nof_layers → ∀ j, j ∈ (edges a i) → ∀ m, m < nof_groups → (m < nof_groups ∧ a < nof_layers))
   ∧ (∀ k, k < nof_groups → ∀ i, i ∈ numerator_list → ∀ a, a < nof_layers → ∀ j, j ∈ (edges a i) → ∀ m, m < nof_groups → ∀ l, l < nof_groups → (i < nof_vertices ∧ m < nof_groups))
   ∧ (∀ k, k < nof_groups → ∀ i, i ∈ numerator_list → ∀ a, a < nof_layers → ∀ j, j ∈ (edges a i) → ∀ m, m < nof_groups → ∀ l, l < nof_groups → (j < nof_vertices ∧ l < nof_groups))
   ∧ (∀ k, k < nof_groups → ∀ i, i ∈ numerator_list → ∀ a, a < nof_layers → ∀ j, j ∈ (edges a i) → ∀ m, m < nof_groups → ∀ l, l < nof_groups → (m < nof_groups ∧ l < nof_groups ∧ a < nof_layers))
   ∧ (∀ k, k < nof_groups → ∀ i, i ∈ numerator_list → ∀ a, a < nof_layers → ∀ j, j ∈ (edges a i) → (j < nof_vertices ∧ k < nof_groups))
   ∧ (∀ k, k < nof_groups → ∀ i, i ∈ numerator_list → ∀ a, a < nof_layers → ∀ j, j ∈ (edges a i) → (k < nof_groups ∧ a < nof_layers))
   ∧ (∀ k, k < nof_groups → ∀ i, i ∈ numerator_list → ∀ a, a < nof_layers → ∀ j, j ∈ (edges a i) → ∀ q, q < nof_groups → (j < nof_vertices ∧ q < nof_groups))
   ∧ (∀ k, k < nof_groups → ∀ i, i ∈ numerator_list → ∀ a, a < nof_layers → ∀ j, j ∈ (edges a i) → ∀ q, q < nof_groups → (k < nof_groups ∧ q < nof_groups ∧ a < nof_layers))

/-- locals of `update_affinity` assigned inside its loops, and the tensor it updates (`w2`: two-index access) -/
structure UWLoc (α : Type) where
  Z_kq : α
  Du : α
  Dv : α
  w_kqa : α
  rho_w : α
  Zij_a : α
  w2 : Nat → Nat → α
  w3 : Nat → Nat → Nat → α

section
variable {α : Type} [Add α] [Sub α] [Mul α] [Div α] [LT α] [DecidableLT α] [MTExtra α]
def updateAffinityCode_1_1 (assortative : Bool) (nof_groups nof_layers nof_vertices : Nat) (u_list v_list : List Nat)
    (out : Nat → Nat → List Nat) (u v : Nat → Nat → α) (w_old2 : Nat → Nat → α) (w_old3 : Nat → Nat → Nat → α) (k : Nat) (i : Nat) (s : UWLoc α) : UWLoc α :=
  let s : UWLoc α := { s with Dv := s.Dv + (v i k) }
  s

def updateAffinityCode_1_2 (assortative : Bool) (nof_groups nof_layers nof_vertices : Nat) (u_list v_list : List Nat)
    (out : Nat → Nat → List Nat) (u v : Nat → Nat → α) (w_old2 : Nat → Nat → α) (w_old3 : Nat → Nat → Nat → α) (k : Nat) (i : Nat) (s : UWLoc α) : UWLoc α :=
  let s : UWLoc α := { s with Du := s.Du + (u i k) }
  s

def updateAffinityCode_1_3_1_1_1 (assortative : Bool) (nof_groups nof_layers nof_vertices : Nat) (u_list v_list : List Nat)
    (out : Nat → Nat → List Nat) (u v : Nat → Nat → α) (w_old2 : Nat → Nat → α) (w_old3 : Nat → Nat → Nat → α) (k : Nat) (a : Nat) (i : Nat) (j : Nat) (m : Nat) (s : UWLoc α) : UWLoc α :=
  let s : UWLoc α := { s with Zij_a := s.Zij_a + (((u i m) * (v j m)) * (w_old2 m a)) }
  s

def updateAffinityCode_1_3_1_1 (assortative : Bool) (nof_groups nof_layers nof_vertices : Nat) (u_list v_list : List Nat)
    (out : Nat → Nat → List Nat) (u v : Nat → Nat → α) (w_old2 : Nat → Nat → α) (w_old3 : Nat → Nat → Nat → α) (k : Nat) (a : Nat) (i : Nat) (j : Nat) (s : UWLoc α) : UWLoc α :=
  let s : UWLoc α := { s with Zij_a := MTExtra.zero }
  let s : UWLoc α := forRange nof_groups (updateAffinityCode_1_3_1_1_1 assortative nof_groups nof_layers nof_vertices u_list v_list out u v w_old2 w_old3 k a i j) s
  let s : UWLoc α := (if MTExtra.eps < s.Zij_a then
      let s : UWLoc α := { s with rho_w := s.rho_w + ((v j k) / s.Zij_a) }
      s
    else
      s)
  s

def updateAffinityCode_1_3_1 (assortative : Bool) (nof_groups nof_layers nof_vertices : Nat) (u_list v_list : List Nat)
    (out : Nat → Nat → List Nat) (u v : Nat → Nat → α) (w_old2 : Nat → Nat → α) (w_old3 : Nat → Nat → Nat → α) (k : Nat) (a : Nat) (i : Nat) (s : UWLoc α) : UWLoc α :=
  let s : UWLoc α := { s with rho_w := MTExtra.zero }
  let s : UWLoc α := forList (out a i) (updateAffinityCode_1_3_1_1 assortative nof_groups nof_layers nof_vertices u_list v_list out u v w_old2 w_old3 k a i) s
  let s : UWLoc α := { s with w_kqa := s.w_kqa + ((u i k) * s.rho_w) }
  s

def updateAffinityCode_1_3 (assortative : Bool) (nof_groups nof_layers nof_vertices : Nat) (u_list v_list : List Nat)
    (out : Nat → Nat → List Nat) (u v : Nat → Nat → α) (w_old2 : Nat → Nat → α) (w_old3 : Nat → Nat → Nat → α) (k : Nat) (a : Nat) (s : UWLoc α) : UWLoc α :=
  let s : UWLoc α := (if MTExtra.eps < (w_old2 k a) then
      let s : UWLoc α := { s with w_kqa := MTExtra.zero }
      let s : UWLoc α := forRange nof_vertices (updateAffinityCode_1_3_1 assortative nof_groups nof_layers nof_vertices u_list v_list out u v w_old2 w_old3 k a) s
      let s : UWLoc α := { s with w2 := setAt2 s.w2 k a (((w_old2 k a) / s.Z_kq) * s.w_kqa) }
      let s : UWLoc α := (if (MTExtra.abs (s.w2 k a)) < MTExtra.eps then
          let s : UWLoc α := { s with w2 := setAt2 s.w2 k a MTExtra.zero }
          s
        else
          s)
      s
    else
      s)
  s

def updateAffinityCode_1_4_1 (assortative : Bool) (nof_groups nof_layers nof_vertices : Nat) (u_list v_list : List Nat)
    (out : Nat → Nat → List Nat) (u v : Nat → Nat → α) (w_old2 : Nat → Nat → α) (w_old3 : Nat → Nat → Nat → α) (k : Nat) (q : Nat) (i : Nat) (s : UWLoc α) : UWLoc α :=
  let s : UWLoc α := { s with Dv := s.Dv + (v i q) }
  s

def updateAffinityCode_1_4_2 (assortative : Bool) (nof_groups nof_layers nof_vertices : Nat) (u_list v_list : List Nat)
    (out : Nat → Nat → List Nat) (u v : Nat → Nat → α) (w_old2 : Nat → Nat → α) (w_old3 : Nat → Nat → Nat → α) (k : Nat) (q : Nat) (i : Nat) (s : UWLoc α) : UWLoc α :=
  let s : UWLoc α := { s with Du := s.Du + (u i k) }
  s

def updateAffinityCode_1_4_3_1_1_1_1 (assortative : Bool) (nof_groups nof_layers nof_vertices : Nat) (u_list v_list : List Nat)
    (out : Nat → Nat → List Nat) (u v : Nat → Nat → α) (w_old2 : Nat → Nat → α) (w_old3 : Nat → Nat → Nat → α) (k : Nat) (q : Nat) (a : Nat) (i : Nat) (j : Nat) (m : Nat) (l : Nat) (s : UWLoc α) : UWLoc α :=
  let s : UWLoc α := { s with Zij_a := s.Zij_a + (((u i m) * (v j l)) * (w_old3 m l a)) }
  s

def updateAffinityCode_1_4_3_1_1_1 (assortative : Bool) (nof_groups nof_layers nof_vertices : Nat) (u_list v_list : List Nat)
    (out : Nat → Nat → List Nat) (u v : Nat → Nat → α) (w_old2 : Nat → Nat → α) (w_old3 : Nat → Nat → Nat → α) (k : Nat) (q : Nat) (a : Nat) (i : Nat) (j : Nat) (m : Nat) (s : UWLoc α) : UWLoc α :=
  let s : UWLoc α := forRange nof_groups (updateAffinityCode_1_4_3_1_1_1_1 assortative nof_groups nof_layers nof_vertices u_list v_list out u v w_old2 w_old3 k q a i j m) s
  s

def updateAffinityCode_1_4_3_1_1 (assortative : Bool) (nof_groups nof_layers nof_vertices : Nat) (u_list v_list : List Nat)
    (out : Nat → Nat → List Nat) (u v : Nat → Nat → α) (w_old2 : Nat → Nat → α) (w_old3 : Nat → Nat → Nat → α) (k : Nat) (q : Nat) (a : Nat) (i : Nat) (j : Nat) (s : UWLoc α) : UWLoc α :=
  let s : UWLoc α := { s with Zij_a := MTExtra.zero }
  let s : UWLoc α := forRange nof_groups (updateAffinityCode_1_4_3_1_1_1 assortative nof_groups nof_layers nof_vertices u_list v_list out u v w_old2 w_old3 k q a i j) s
  let s : UWLoc α := (if MTExtra.eps < s.Zij_a then
      let s : UWLoc α := { s with rho_w := s.rho_w + ((v j q) / s.Zij_a) }
      s
    else
      s)
  s

def updateAffinityCode_1_4_3_1 (assortative : Bool) (nof_groups nof_layers nof_vertices : Nat) (u_list v_list : List Nat)
    (out : Nat → Nat → List Nat) (u v : Nat → Nat → α) (w_old2 : Nat → Nat → α) (w_old3 : Nat → Nat → Nat → α) (k : Nat) (q : Nat) (a : Nat) (i : Nat) (s : UWLoc α) : UWLoc α :=
  let s : UWLoc α := { s with rho_w := MTExtra.zero }
  let s : UWLoc α := forList (out a i) (updateAffinityCode_1_4_3_1_1 assortative nof_groups nof_layers nof_vertices u_list v_list out u v w_old2 w_old3 k q a i) s
  let s : UWLoc α := { s with w_kqa := s.w_kqa + ((u i k) * s.rho_w) }
  s

def updateAffinityCode_1_4_3 (assortative : Bool) (nof_groups nof_layers nof_vertices : Nat) (u_list v_list : List Nat)
    (out : Nat → Nat → List Nat) (u v : Nat → Nat → α) (w_old2 : Nat → Nat → α) (w_old3 : Nat → Nat → Nat → α) (k : Nat) (q : Nat) (a : Nat) (s : UWLoc α) : UWLoc α :=
  let s : UWLoc α := (if MTExtra.eps < (w_old3 k q a) then
      let s : UWLoc α := { s with w_kqa := MTExtra.zero }
      let s : UWLoc α := forRange nof_vertices (updateAffinityCode_1_4_3_1 assortative nof_groups nof_layers nof_vertices u_list v_list out u v w_old2 w_old3 k q a) s
      let s : UWLoc α := { s with w3 := setAt3 s.w3 k q a (((w_old3 k q a) / s.Z_kq) * s.w_kqa) }
      let s : UWLoc α := (if (MTExtra.abs (s.w3 k q a)) < MTExtra.eps then
          let s : UWLoc α := { s with w3 := setAt3 s.w3 k q a MTExtra.zero }
          s
        else
          s)
      s
    else
      s)
  s

def updateAffinityCode_1_4 (assortative : Bool) (nof_groups nof_layers nof_vertices : Nat) (u_list v_list : List Nat)
    (out : Nat → Nat → List Nat) (u v : Nat → Nat → α) (w_old2 : Nat → Nat → α) (w_old3 : Nat → Nat → Nat → α) (k : Nat) (q : Nat) (s : UWLoc α) : UWLoc α :=
  let s : UWLoc α := { s with Dv := MTExtra.zero }
  let s : UWLoc α := { s with Du := s.Dv }
  let s : UWLoc α := forList v_list (updateAffinityCode_1_4_1 assortative nof_groups nof_layers nof_vertices u_list v_list out u v w_old2 w_old3 k q) s
  let s : UWLoc α := forList u_list (updateAffinityCode_1_4_2 assortative nof_groups nof_layers nof_vertices u_list v_list out u v w_old2 w_old3 k q) s
  let s : UWLoc α := { s with Z_kq := s.Du * s.Dv }
  let s : UWLoc α := (if MTExtra.eps < s.Z_kq then
      let s : UWLoc α := forRange nof_layers (updateAffinityCode_1_4_3 assortative nof_groups nof_layers nof_vertices u_list v_list out u v w_old2 w_old3 k q) s
      s
    else
      s)
  s

def updateAffinityCode_1 (assortative : Bool) (nof_groups nof_layers nof_vertices : Nat) (u_list v_list : List Nat)
    (out : Nat → Nat → List Nat) (u v : Nat → Nat → α) (w_old2 : Nat → Nat → α) (w_old3 : Nat → Nat → Nat → α) (k : Nat) (s : UWLoc α) : UWLoc α :=
  let s : UWLoc α := (if assortative then
      let s : UWLoc α := { s with Dv := MTExtra.zero }
      let s : UWLoc α := { s with Du := s.Dv }
      let s : UWLoc α := forList v_list (updateAffinityCode_1_1 assortative nof_groups nof_layers nof_vertices u_list v_list out u v w_old2 w_old3 k) s
      let s : UWLoc α := forList u_list (updateAffinityCode_1_2 assortative nof_groups nof_layers nof_vertices u_list v_list out u v w_old2 w_old3 k) s
      let s : UWLoc α := { s with Z_kq := s.Du * s.Dv }
      let s : UWLoc α := (if MTExtra.eps < s.Z_kq then
          let s : UWLoc α := forRange nof_layers (updateAffinityCode_1_3 assortative nof_groups nof_layers nof_vertices u_list v_list out u v w_old2 w_old3 k) s
          s
        else
          s)
      s
    else
      let s : UWLoc α := forRange nof_groups (updateAffinityCode_1_4 assortative nof_groups nof_layers nof_vertices u_list v_list out u v w_old2 w_old3 k) s
      s)
  s

/-- loop nest of `update_affinity`; `out a i` = targets of the out-edges of `i` in layer `a`; `w_old` is the copy made before the loops (two-index access when assortative) -/
def updateAffinityCode (assortative : Bool) (nof_groups nof_layers nof_vertices : Nat) (u_list v_list : List Nat)
    (out : Nat → Nat → List Nat) (u v : Nat → Nat → α) (w_old2 : Nat → Nat → α) (w_old3 : Nat → Nat → Nat → α) (s : UWLoc α) : UWLoc α :=
  let s : UWLoc α := forRange nof_groups (updateAffinityCode_1 assortative nof_groups nof_layers nof_vertices u_list v_list out u v w_old2 w_old3) s
  s
end

/-- every container access of the loop nest of `update_affinity` is inside its container (u, v are nof_vertices x nof_groups, both tensors nof_groups (x nof_groups) x nof_layers) -/
def updateAffinityCode_safe (nof_groups nof_layers nof_vertices : Nat) (u_list v_list : List Nat) (out : Nat → Nat → List Nat) : Prop :=
     (∀ k, k < nof_groups → ∀ i, i ∈ v_list → (i < nof_vertices ∧ k < nof_groups))
   ∧ (∀ k, k < nof_groups → ∀ i, i ∈ u_list → (i < nof_vertices ∧ k < nof_groups))
   ∧ (∀ k, k < nof_groups → ∀ a, a < nof_layers → (k < nof_groups ∧ a < nof_layers))
   ∧ (∀ k, k < nof_groups → ∀ a, a < nof_layers → ∀ i, i < nof_vertices → (a < nof_layers))
   ∧ (∀ k, k < nof_groups → ∀ a, a < nof_layers → ∀ i, i < nof_vertices → (i < nof_vertices))
   ∧ (∀ k, k < nof_groups → ∀ a, a < nof_layers → ∀ i, i < nof_vertices → ∀ j, j ∈ (out a i) → ∀ m, m < nof_groups → (i < nof_vertices ∧ m < nof_groups))
   ∧ (∀ k, k < nof_groups → ∀ a, a < nof_layers → ∀ i, i < nof_vertices → ∀ j, j ∈ (out a i) → ∀ m, m < nof_groups → (j < nof_vertices ∧ m < nof_groups))
   ∧ (∀ k, k < nof_groups → ∀ a, a < nof_layers → ∀ i, i < nof_vertices → ∀ j, j ∈ (out a i) → ∀ m, m < nof_groups → (m < nof_groups ∧ a < nof_layers))
   ∧ (∀ k, k < nof_groups → ∀ a, a < nof_layers → ∀ i, i < nof_vertices → ∀ j, j ∈ (out a i) → (j < nof_vertices ∧ k < nof_groups))
   ∧ (∀ k, k < nof_groups → ∀ a, a < nof_layers → ∀ i, i < nof_vertices → (i < nof_vertices ∧ k < nof_groups))
   ∧ (∀ k, k < nof_groups → ∀ q, q < nof_groups → ∀ i, i ∈ v_list → (i < nof_vertices ∧ q < nof_groups))
   ∧ (∀ k, k < nof_groups → ∀ q, q < nof_groups → ∀ i, i ∈ u_list → (i < nof_vertices ∧ k < nof_groups))
   ∧ (∀ k, k < nof_groups → ∀ q, q < nof_groups → ∀ a, a < nof_layers → (k < nof_groups ∧ q < nof_groups ∧ a < nof_layers))
   ∧ (∀ k, k < nof_groups → ∀ q, q < nof_groups → ∀ a, a < nof_layers → ∀ i, i < nof_vertices → (a < nof_layers))
   ∧ (∀ k, k < nof_groups → ∀ q, q < nof_groups → ∀ a, a < nof_layers → ∀ i, i < nof_vertices → (i < nof_vertices))
   ∧ (∀ k, k < nof_groups → ∀ q, q < nof_groups → ∀ a, a < nof_layers → ∀ i, i < nof_vertices → ∀ j, j ∈ (out a i) → ∀ m, m < nof_groups → ∀ l, l < nof_groups → (i < nof_vertices ∧ m < nof_groups))
   ∧ (∀ k, k < nof_groups → ∀ q, q < nof_groups → ∀ a, a < nof_layers → ∀ i, i < nof_vertices → ∀ j, j ∈ (out a i) → ∀ m, m < nof_groups → ∀ l, l < nof_groups → (j < nof_vertices ∧ l < nof_groups))
   ∧ (∀ k, k < nof_groups → ∀ q, q < nof_groups → ∀ a, a < nof_layers → ∀ i, i < nof_vertices → ∀ j, j ∈ (out a i) → ∀ m, m < nof_groups → ∀ l, l < nof_groups → (m < nof_groups ∧ l < nof_groups ∧ a < nof_layers))
   ∧ (∀ k, k < nof_groups → ∀ q, q < nof_groups → ∀ a, a < nof_layers → ∀ i, i < nof_vertices → ∀ j, j ∈ (out a i) → (j < nof_vertices ∧ q < nof_groups))
   ∧ (∀ k, k < nof_groups → ∀ q, q < nof_groups → ∀ a, a < nof_layers → ∀ i, i < nof_vertices → (i < nof_vertices ∧ k < nof_groups))

/-- locals of `calculate_likelyhood` -/
structure LKLoc (α : Type) where
  l : α
  log_arg : α
  uvw : α
  nof_parallel_edges : Nat

section
variable {α : Type} [Add α] [Sub α] [Mul α] [Div α] [LT α] [DecidableLT α] [MTExtra α]
def likelihoodCode_1_1_1_1_1 (assortative : Bool) (nof_groups nof_layers nof_vertices : Nat)
    (out : Nat → Nat → List Nat) (u v : Nat → Nat → α) (w2 : Nat → Nat → α) (w3 : Nat → Nat → Nat → α) (alpha : Nat) (i : Nat) (j : Nat) (k : Nat) (q : Nat) (s : LKLoc α) : LKLoc α :=
  let s : LKLoc α := { s with uvw := ((u i k) * (v j q)) * (w3 k q alpha) }
  let s : LKLoc α := { s with l := s.l - s.uvw }
  let s : LKLoc α := (if (out alpha i).contains j then
      let s : LKLoc α := { s with log_arg := s.log_arg + s.uvw }
      s
    else
      s)
  s

def likelihoodCode_1_1_1_1 (assortative : Bool) (nof_groups nof_layers nof_vertices : Nat)
    (out : Nat → Nat → List Nat) (u v : Nat → Nat → α) (w2 : Nat → Nat → α) (w3 : Nat → Nat → Nat → α) (alpha : Nat) (i : Nat) (j : Nat) (k : Nat) (s : LKLoc α) : LKLoc α :=
  let s : LKLoc α := (if assortative then
      let s : LKLoc α := { s with uvw := ((u i k) * (v j k)) * (w2 k alpha) }
      let s : LKLoc α := { s with l := s.l - s.uvw }
      let s : LKLoc α := (if (out alpha i).contains j then
          let s : LKLoc α := { s with log_arg := s.log_arg + s.uvw }
          s
        else
          s)
      s
    else
      let s : LKLoc α := forRange nof_groups (likelihoodCode_1_1_1_1_1 assortative nof_groups nof_layers nof_vertices out u v w2 w3 alpha i j k) s
      s)
  s

def likelihoodCode_1_1_1_2 (assortative : Bool) (nof_groups nof_layers nof_vertices : Nat)
    (out : Nat → Nat → List Nat) (u v : Nat → Nat → α) (w2 : Nat → Nat → α) (w3 : Nat → Nat → Nat → α) (alpha : Nat) (i : Nat) (j : Nat) (tgt_eit : Nat) (s : LKLoc α) : LKLoc α :=
  let s : LKLoc α := (if tgt_eit = j then
      let s : LKLoc α := { s with nof_parallel_edges := s.nof_parallel_edges + 1 }
      s
    else
      s)
  s

def likelihoodCode_1_1_1 (assortative : Bool) (nof_groups nof_layers nof_vertices : Nat)
    (out : Nat → Nat → List Nat) (u v : Nat → Nat → α) (w2 : Nat → Nat → α) (w3 : Nat → Nat → Nat → α) (alpha : Nat) (i : Nat) (j : Nat) (s : LKLoc α) : LKLoc α :=
  let s : LKLoc α := { s with log_arg := MTExtra.zero }
  let s : LKLoc α := forRange nof_groups (likelihoodCode_1_1_1_1 assortative nof_groups nof_layers nof_vertices out u v w2 w3 alpha i j) s
  let s : LKLoc α := (if MTExtra.eps < s.log_arg then
      let s : LKLoc α := { s with nof_parallel_edges := 0 }
      let s : LKLoc α := forList (out alpha i) (likelihoodCode_1_1_1_2 assortative nof_groups nof_layers nof_vertices out u v w2 w3 alpha i j) s
      let s : LKLoc α := { s with l := s.l + ((MTExtra.ofNat s.nof_parallel_edges) * (MTExtra.log s.log_arg)) }
      s
    else
      s)
  s

def likelihoodCode_1_1 (assortative : Bool) (nof_groups nof_layers nof_vertices : Nat)
    (out : Nat → Nat → List Nat) (u v : Nat → Nat → α) (w2 : Nat → Nat → α) (w3 : Nat → Nat → Nat → α) (alpha : Nat) (i : Nat) (s : LKLoc α) : LKLoc α :=
  let s : LKLoc α := forRange nof_vertices (likelihoodCode_1_1_1 assortative nof_groups nof_layers nof_vertices out u v w2 w3 alpha i) s
  s

def likelihoodCode_1 (assortative : Bool) (nof_groups nof_layers nof_vertices : Nat)
    (out : Nat → Nat → List Nat) (u v : Nat → Nat → α) (w2 : Nat → Nat → α) (w3 : Nat → Nat → Nat → α) (alpha : Nat) (s : LKLoc α) : LKLoc α :=
  let s : LKLoc α := forRange nof_vertices (likelihoodCode_1_1 assortative nof_groups nof_layers nof_vertices out u v w2 w3 alpha) s
  s

/-- loop nest of `calculate_likelyhood` (the function returns field `l`, which starts at 0) -/
def likelihoodCode (assortative : Bool) (nof_groups nof_layers nof_vertices : Nat)
    (out : Nat → Nat → List Nat) (u v : Nat → Nat → α) (w2 : Nat → Nat → α) (w3 : Nat → Nat → Nat → α) (s : LKLoc α) : LKLoc α :=
  let s : LKLoc α := forRange nof_layers (likelihoodCode_1 assortative nof_groups nof_layers nof_vertices out u v w2 w3) s
  s
end

/-- every container access of the loop nest of `calculate_likelyhood` is inside its container (u, v are nof_vertices x nof_groups, the tensor nof_groups (x nof_groups) x nof_layers) -/
def likelihoodCode_safe (nof_groups nof_layers nof_vertices : Nat) (out : Nat → Nat → List Nat) : Prop :=
     (∀ alpha, alpha < nof_layers → ∀ i, i < nof_vertices → ∀ j, j < nof_vertices → ∀ k, k < nof_groups → (i < nof_vertices ∧ k < nof_groups))
   ∧ (∀ alpha, alpha < nof_layers → ∀ i, i < nof_vertices → ∀ j, j < nof_vertices → ∀ k, k < nof_groups → (j < nof_vertices ∧ k < nof_groups))
   ∧ (∀ alpha, alpha < nof_layers → ∀ i, i < nof_vertices → ∀ j, j < nof_vertices → ∀ k, k < nof_groups → (k < nof_groups ∧ alpha < nof_layers))
   ∧ (∀ alpha, alpha < nof_layers → ∀ i, i < nof_vertices → ∀ j, j < nof_vertices → ∀ k, k < nof_groups → (alpha < nof_layers))
   ∧ (∀ alpha, alpha < nof_layers → ∀ i, i < nof_vertices → ∀ j, j < nof_vertices → ∀ k, k < nof_groups → ∀ q, q < nof_groups → (i < nof_vertices ∧ k < nof_groups))
   ∧ (∀ alpha, alpha < nof_layers → ∀ i, i < nof_vertices → ∀ j, j < nof_vertices → ∀ k, k < nof_groups → ∀ q, q < nof_groups → (j < nof_vertices ∧ q < nof_groups))
   ∧ (∀ alpha, alpha < nof_layers → ∀ i, i < nof_vertices → ∀ j, j < nof_vertices → ∀ k, k < nof_groups → ∀ q, q < nof_groups → (k < nof_groups ∧ q < nof_groups ∧ alpha < nof_layers))
   ∧ (∀ alpha, alpha < nof_layers → ∀ i, i < nof_vertices → ∀ j, j < nof_vertices → ∀ k, k < nof_groups → ∀ q, q < nof_groups → (alpha < nof_layers))
   ∧ (∀ alpha, alpha < nof_layers → ∀ i, i < nof_vertices → ∀ j, j < nof_vertices → (alpha < nof_layers))
   ∧ (∀ alpha, alpha < nof_layers → ∀ i, i < nof_vertices → ∀ j, j < nof_vertices → (i < nof_vertices))

/-- what the control part of `Solver::loop` reads and writes: the three by-reference counters, the local `L2_old`, and the value returned (`ret`: 0 NO_TERMINATION, 1 MAX_ITER, 2 CONVERGED) -/
structure LoopLoc (α : Type) where
  iteration : Nat
  coincide : Nat
  L2 : α
  L2_old : α
  ret : Nat

section
variable {α : Type} [Add α] [Sub α] [Mul α] [Div α] [LT α] [DecidableLT α] [MTExtra α]
/-- `Solver::loop` after the three update calls; `lNew` = what `calculate_likelyhood(u, v, w, A)` returns there -/
def loopControlCode (lNew : α) (num_conv max_iter : Nat) (s : LoopLoc α) : LoopLoc α :=
  let s : LoopLoc α := (if (s.iteration % 10) = 0 then
      let s : LoopLoc α := { s with L2_old := s.L2 }
      let s : LoopLoc α := { s with L2 := lNew }
      let s : LoopLoc α := (if ((MTExtra.abs (s.L2_old - s.L2)) / (MTExtra.abs s.L2_old)) < MTExtra.epsLik then
          let s : LoopLoc α := { s with coincide := s.coincide + 1 }
          s
        else
          let s : LoopLoc α := { s with coincide := 0 }
          s)
      s
    else
      s)
  let s : LoopLoc α := { s with iteration := s.iteration + 1 }
  let s : LoopLoc α := (if s.coincide = num_conv then
      let s : LoopLoc α := { s with ret := 2 }
      s
    else
      let s : LoopLoc α := (if s.iteration = max_iter then
          let s : LoopLoc α := { s with ret := 1 }
          s
        else
          let s : LoopLoc α := { s with ret := 0 }
          s)
      s)
  s
end

end MT.Gen
