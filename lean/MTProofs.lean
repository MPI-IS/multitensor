import MTProofs.Control
import MTProofs.Select
import MTProofs.Graph
import MTProofs.Tensor
import MTProofs.Steps
import MTProofs.Init
import MTProofs.RealScalar
import MTProofs.Refine
import MTProofs.Likelihood
import MTProofs.MassBalance
import MTProofs.MM
import MTProofs.Ascent
import MTProofs.AscentTie
import MTProofs.Congr
import MTProofs.Invariants
import MTProofs.Reader
import MTProofs.Folds
import MTProofs.Checks
import MTProofs.CodeRefineUV
import MTProofs.CodeRefineUW
import MTProofs.CodeRefineLK
import MTProofs.CodeRefineCtl
import MTProofs.CodeRefineRun
import MTProofs.CodeRefineInit
import MTProofs.CodeRefineGraph
