/-
Code tie (command line) — `main` of applications/src/multitensor.cpp, regenerated from the source on every run
(`MT/Generated/CliCode.lean`: statement sequence from the source, meaning of each statement from the table of
tools/gen_cli_code.py, the `switch` through the regenerated `Gen.cliTable`), is the front-end model's `cliMain`:
the same result files, or no run in both.  `cliMain` is what C13 (every option takes effect, files serialise the
library's result, in-membership file only for directed runs) and the command-line clause of C15 are proved about.
-/
import MT.Generated.CliCode
import MTProps.C19

namespace MTProps.CodeCli
open MT MT.Cli MT.Gen

/-- same files, or an abnormal end in both (error texts are not compared) -/
def SameOutcome (a b : Except String Files) : Prop :=
  match a, b with
  | .ok x, .ok y => x = y
  | .error _, .error _ => True
  | _, _ => False

theorem sameOutcome_error (e1 e2 : String) : SameOutcome (.error e1) (.error e2) := trivial

/-- the regenerated `switch`: the case selected for `(directed, assortative, w given)` is an instantiation for that
direction -/
theorem table_direction (d a w : Bool) :
    ∀ i b, Gen.cliTable.lookup (Gen.cliSelection d.toNat a.toNat w.toNat) = some (i, b) → i.directed = d := by
  intro i b h
  rw [C19.cli_lookup] at h
  cases h; rfl

def optsDo {β : Type} (argv : List String)
    (F : Nat → String → String → String → Nat → String → Nat → Nat → Except String β) : Except String β := do
  let k ← (if hasOpt argv "--k" then stoi (getOpt argv "--k")
    else throw "Please specify the number of groups (--k option).")
  let a ← optStr argv "--a" "adjacency.dat"
  let w ← optStr argv "--w" ""
  let o ← optStr argv "--o" "results"
  let r ← optNat argv "--r" 1
  let s ← optStr argv "--s" "random"
  let mx ← optNat argv "--maxit" 500
  let y ← optNat argv "--y" 10
  F k a w o r s mx y

/-- the first stage of `main`: `--help`, `--version`, then the option reads.  Either side stops exactly when the
other does; otherwise the code goes on with the values that `parseArgs` puts into the record -/
theorem args_stage (argv : List String)
    (F : Nat → String → String → String → Nat → String → Nat → Nat → Except String Files)
    (G : Opts → Except String Files)
    (h : ∀ k a w o r s mx y, SameOutcome (F k a w o r s mx y)
      (G { k, adjacency := a, affinity := w, output := o, directed := !hasOpt argv "--undirected",
           assortative := hasOpt argv "--assortative", r, maxit := mx, y, seed := s })) :
    SameOutcome
      (if hasOpt argv "--help" then .ok [] else if hasOpt argv "--version" then .ok [] else optsDo argv F)
      (match parseArgs argv with
        | .help => .ok []
        | .version => .ok []
        | .error e => .error e
        | .run o => G o) := by
  unfold optsDo parseArgs parseOpts
  generalize hasOpt argv "--help" = bh
  generalize hasOpt argv "--version" = bv
  generalize hasOpt argv "--k" = bk
  generalize stoi (getOpt argv "--k") = eK
  generalize optStr argv "--a" "adjacency.dat" = eA
  generalize optStr argv "--w" "" = eW
  generalize optStr argv "--o" "results" = eO
  generalize optNat argv "--r" 1 = eR
  generalize optStr argv "--s" "random" = eS
  generalize optNat argv "--maxit" 500 = eM
  generalize optNat argv "--y" 10 = eY
  cases bh; case true => exact rfl
  cases bv; case true => exact rfl
  cases bk; exact sameOutcome_error _ _
  rcases eK with _ | k; exact sameOutcome_error _ _
  rcases eA with _ | a; exact sameOutcome_error _ _
  rcases eW with _ | w; exact sameOutcome_error _ _
  rcases eO with _ | o; exact sameOutcome_error _ _
  rcases eR with _ | r; exact sameOutcome_error _ _
  rcases eS with _ | sd; exact sameOutcome_error _ _
  rcases eM with _ | mx; exact sameOutcome_error _ _
  rcases eY with _ | y; exact sameOutcome_error _ _
  exact h k a w o r sd mx y

/-- the seed read of `main`: a decimal natural or an abnormal end (`random` is not modelled) -/
theorem seed_read (sd : String) :
    (if sd = "random" then throw "seed from the clock: not modelled" else stoi (some sd) : Except String Nat) =
      if isNatTok sd then .ok sd.toNat!
      else .error (if sd = "random" then "seed from the clock: not modelled" else s!"stoi({sd})") := by
  by_cases hr : sd = "random"
  · subst hr; rfl
  · rw [if_neg hr, if_neg hr]; rfl

theorem cliMainCode_eq (argv : List String) (adj : String) (aff : Option String) :
    SameOutcome (cliMainCode argv adj aff) (cliMain argv adj aff) := by
  unfold cliMainCode cliMain
  -- the continuation `F` is found by unification: the `let`s of `main` are zeta-reduced on the way
  refine args_stage argv _ _ (fun k a w o r sd mx y => ?_)
  simp only [bind, Except.bind, pure, Except.pure]
  unfold cliCall cliAffinity
  generalize parseAdjacency adj = A
  generalize hasOpt argv "--undirected" = fU
  generalize hasOpt argv "--assortative" = fA
  have hfA : (if fA = true then true else false) = fA := by cases fA <;> rfl
  have hfU : (if fU = true then false else true) = !fU := by cases fU <;> rfl
  simp only [hfA, hfU, Array.size_replicate]
  by_cases h0 : A.starts.length = 0
  · rw [if_pos h0, if_pos h0]; exact sameOutcome_error _ _
  rw [if_neg h0, if_neg h0]
  dsimp only  -- the `match` on `Except.ok _` reduces
  generalize (if (w != "") = true then _ else _ : Except String (Array Float)) = eAff
  rcases eAff with _ | av; exact sameOutcome_error _ _
  -- the `switch` selects the instantiation for the direction that the last writer call tests
  rw [seed_read, C19.cli_lookup]
  dsimp only  -- the `match` on `some (inst, allocV)` reduces
  cases isNatTok sd
  · exact sameOutcome_error _ _
  simp only [Bool.not_true, Bool.false_eq_true, if_false, if_true]
  generalize factorize (β := Nat) (ω := Nat) (α := Float) _ _ = eF
  rcases eF with _ | out; exact sameOutcome_error _ _
  cases fU <;> rfl

end MTProps.CodeCli
