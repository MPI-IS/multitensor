/-
Code tie (1/3: `update_vertices`) — the numeric core of solver.hpp, translated from the source on every run, *is* the model.

`MT/Generated/SolverCode.lean` is rewritten by tools/cxx2lean.py from the current text of
`update_vertices`, `update_affinity` and `calculate_likelyhood` (statement by statement: every
assignment one structure update, every loop a left fold).  The theorems below say that, called the
way `Solver::loop` calls them (the order and arguments of the calls are the regenerated
`Gen.loopSteps`, pinned in C02), those loop nests leave in every entry exactly the value of the
model's `stepU` / `stepV` / `stepW`, and return the model's `stateLik`.

They hold for every scalar type — no algebraic law is used — hence for `Float`, where the
model is what is compared with the compiled C++ on every run, and for `ℝ`, where the properties
C01, C02, C06, C09, C10 are proved.  An edit of one of the three functions changes the generated
definitions; if the edit changes what is computed, these theorems no longer check.

Assumed, not proved (recorded in the trusted base): the translation rules of tools/cxx2lean.py; the
statements before the loop nests (frozen copies `mat_to_update_old`, `mat_fixed_old`, `w_old`), which
are pinned literally; that the accessors `M(i,k)`, `w(k,q,a)`, `w(k,a)` read the entries the tensor
model gives them (C18); that the edge iterators yield the adjacency lists of the network model (C08).
-/
import MTProofs.CodeRefineUV
import MTProofs.Steps
import MT.Generated.Control

namespace MTProps.CodeVertices
open MT MT.Gen MT.CodeRefine MTProofs

section
variable {α : Type} [Add α] [Sub α] [Mul α] [Div α] [LT α] [DecidableLT α] [MTExtra α]
variable (assort : Bool) (K : Nat) (nv : NetView) (s : State α)

/-- `update_vertices<out_edges_target_vertices>(u_list, v_list, A, w, v, u)` -/
theorem code_stepU (c : UVLoc α) (hc : c.mat_to_update = fun i k => s.u.get i k 0)
    {i k : Nat} (hi : i < s.u.R) (hk : k < K) :
    (updateVerticesCode assort K nv.nL nv.uList nv.vList nv.out
        (diag2 (wView assort false s.w)) (wView assort false s.w)
        (fun i k => s.u.get i k 0) (fun i k => (if nv.directed then s.v else s.u).get i k 0) c).mat_to_update i k
      = (stepU assort K nv s).u.get i k 0 := by
  rw [updateVerticesCode_refines assort K nv.nL nv.uList nv.vList nv.out (wView assort false s.w)
    (fun i k => s.u.get i k 0) (fun i k => (if nv.directed then s.v else s.u).get i k 0) c hc i k]
  rw [stepU_u, updateVertices_get hi hk, if_pos hk]

theorem code_stepU_outside (c : UVLoc α) (hc : c.mat_to_update = fun i k => s.u.get i k 0)
    {i k : Nat} (hk : K ≤ k) :
    (updateVerticesCode assort K nv.nL nv.uList nv.vList nv.out
        (diag2 (wView assort false s.w)) (wView assort false s.w)
        (fun i k => s.u.get i k 0) (fun i k => (if nv.directed then s.v else s.u).get i k 0) c).mat_to_update i k
      = s.u.get i k 0 := by
  rw [updateVerticesCode_refines assort K nv.nL nv.uList nv.vList nv.out (wView assort false s.w)
    (fun i k => s.u.get i k 0) (fun i k => (if nv.directed then s.v else s.u).get i k 0) c hc i k]
  have : ¬ k < K := by omega
  simp only [this, if_false]

/-- `update_vertices<in_edges_source_vertices>(v_list, u_list, A, w | wT, u, v)` (directed), on the
in-neighbour lists and the transposed affinity view -/
theorem code_stepV (hd : nv.directed = true) (c : UVLoc α) (hc : c.mat_to_update = fun i k => s.v.get i k 0)
    {j k : Nat} (hj : j < s.v.R) (hk : k < K) :
    (updateVerticesCode assort K nv.nL nv.vList nv.uList nv.inn
        (diag2 (wView assort true s.w)) (wView assort true s.w)
        (fun i k => s.v.get i k 0) (fun i k => s.u.get i k 0) c).mat_to_update j k
      = (stepV assort K nv s).v.get j k 0 := by
  rw [updateVerticesCode_refines assort K nv.nL nv.vList nv.uList nv.inn (wView assort true s.w)
    (fun i k => s.v.get i k 0) (fun i k => s.u.get i k 0) c hc j k]
  rw [stepV_of_directed hd, updateVertices_get hj hk, if_pos hk]

end

/-- what the two proxies of graph.hpp return: out-edges/targets and in-edges/sources — the lists the
model passes as `nbr` in the out- and in-membership steps -/
theorem proxies_documented :
    Gen.proxyOut = "returnboost::out_edges(i,g);|returnboost::target(*eit,g);" ∧
    Gen.proxyIn = "returnboost::in_edges(i,g);|returnboost::source(*eit,g);" := ⟨rfl, rfl⟩

/-- the calls in `Solver::loop` hand the functions the arguments the theorems above assume -/
theorem call_arguments_documented :
    Gen.loopSteps = [("out_edges_target_vertices", "u_list,v_list,A,w,v,u"),
      ("in_edges_source_vertices", "v_list,u_list,A,w,u,v"),
      ("in_edges_source_vertices", "v_list,u_list,A,wT,u,v"),
      ("affinity", "u_list,v_list,A,u,v,w")] := rfl

/-- two vertices, one layer, one edge 0→1, K = 1 -/
example :
    let r := updateVerticesCode (α := Float) false 1 1 [0] [1] (fun _ i => if i = 0 then [1] else [])
      (fun _ _ => 1.0) (fun _ _ _ => 1.0) (fun _ _ => 0.5) (fun _ _ => 0.25)
      ⟨0, 0, 0, 0, 0, 0, fun _ _ => 0.5⟩
    r.mat_to_update 0 0 = 4.0 ∧ r.mat_to_update 1 0 = 0.5 := by
  decide +kernel

end MTProps.CodeVertices
