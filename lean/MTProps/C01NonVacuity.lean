/-
Non-vacuity of C01's hypotheses: a concrete directed network (two vertices, one edge 0 → 1,
one group, one layer) with a concrete state on which every hypothesis of `sweep_ascent_directed` holds.
The state is a fixed point of the sweep (`u1_fix`, `v1_fix`, `w1_fix`), so all nine hypotheses are about `u`, `v`, `w`.
-/
import MTProps.C01

namespace MTProps.C01.NonVacuity
open MT MTProofs Finset MTProps.C01

def out : Nat → Nat → List Nat := fun _ i => if i = 0 then [1] else []
def inn : Nat → Nat → List Nat := fun _ j => if j = 1 then [0] else []
noncomputable def w : Nat → Nat → Nat → ℝ := fun _ _ _ => 1
noncomputable def u : Nat → Nat → ℝ := fun i _ => if i = 0 then 1 else 0
noncomputable def v : Nat → Nat → ℝ := fun j _ => if j = 1 then 1 else 0

theorem rate_uv (X Y : Nat → Nat → ℝ) (i j a : Nat) : rate false 1 w Y X i j a = X i 0 * Y j 0 := by
  simp [rate, gsum, w]

theorem hone : ¬ |(1 : ℝ)| < ε := by rw [abs_one]; exact not_lt.mpr eps_lt_one.le

theorem snap_one : snapR 1 = 1 := if_neg hone

theorem csum_one (k : Nat) (f : Nat → ℝ) : csum false 1 k f = f 0 := by
  unfold csum; rw [if_neg Bool.false_ne_true, sum_range_one]

theorem sum_count_singleton (N j0 : Nat) (h : j0 < N) (f : Nat → ℝ) :
    ∑ j ∈ range N, (([j0] : List Nat).count j : ℝ) * f j = f j0 := by
  rw [← sumL_adj [j0] N (fun j hj => by rw [List.mem_singleton.mp hj]; exact h) f, sumL_singleton]

/-! One membership step on a single edge `i0 — j0` with unit weights: the u-step (`nbr = out`) and the
v-step (`nbr = inn`, roles exchanged) are both this. -/
section edge
variable {nbr : Nat → Nat → List Nat} {X Y : Nat → Nat → ℝ} {i0 j0 : Nat}
  (hn : ∀ a, nbr a i0 = [j0]) (hj : j0 < 2) (hX : ∀ k, X i0 k = 1) (hY : ∀ k, Y j0 k = 1)
include hY

theorem Z_edge (k : Nat) : specZ false 1 1 [j0] w Y k = 1 := by
  unfold specZ
  rw [csum_one, sum_range_one, sumL_singleton, hY, mul_one]; rfl

include hn hj hX

theorem rawV_edge (k : Nat) : rawV false 1 1 2 [j0] nbr w Y X i0 k = 1 := by
  unfold rawV specVal
  rw [Z_edge hY, sum_range_one, hn, sum_count_singleton 2 j0 hj, rate_uv, csum_one, hX k, hX 0, hY 0,
    show w k 0 0 = 1 from rfl, mul_one, if_pos eps_lt_one, div_one, mul_one]

theorem step_fix : specVEntry false 1 1 2 [i0] [j0] nbr w Y X = X := by
  funext i k
  by_cases hi : i = i0
  · subst hi
    show (if _ then snapR (rawV false 1 1 2 [j0] nbr w Y X i k) else _) = _
    rw [rawV_edge hn hj hX hY, Z_edge hY, hX, if_pos ⟨eps_lt_one, List.mem_singleton_self i, eps_lt_one⟩, snap_one]
  · exact MTProps.C02.other_rows_untouched false 1 1 2 [i0] [j0] nbr w Y X i k (by rwa [List.mem_singleton])

end edge

theorem u_zero (k : Nat) : u 0 k = 1 := rfl
theorem v_one (k : Nat) : v 1 k = 1 := rfl

theorem u1_fix : u1 false 1 1 2 [0] [1] out w u v = u :=
  step_fix (fun _ => rfl) Nat.one_lt_two u_zero v_one

theorem v1_fix : v1 false 1 1 2 [0] [1] out inn w w u v = v := by
  unfold v1; rw [u1_fix]; exact step_fix (fun _ => rfl) Nat.zero_lt_two v_one u_zero

theorem wZ_one (k q : Nat) : specWZ [0] [1] u v k q = 1 := by
  unfold specWZ
  rw [sumL_singleton, sumL_singleton, u_zero, v_one, one_mul]

theorem wAcc_one (k q a : Nat) : specWAcc false 1 2 out u v w k q a = 1 := by
  unfold specWAcc
  rw [sum_range_succ, sum_range_one, show out a 0 = [1] from rfl, sum_count_singleton 2 1 Nat.one_lt_two, rate_uv,
    show u 1 k = 0 from rfl, zero_mul, add_zero, u_zero k, u_zero 0, v_one 0, v_one q, one_mul, one_mul,
    if_pos eps_lt_one, div_one]

theorem w1_fix : w1 false 1 1 2 [0] [1] out inn w w u v = w := by
  unfold w1
  rw [u1_fix, v1_fix]
  funext k q a
  unfold specWEntry
  rw [wZ_one, wAcc_one, show w k q a = 1 from rfl, if_pos ⟨eps_lt_one, eps_lt_one⟩, div_one, one_mul, snap_one]

/-- the only edge is 0 → 1 -/
theorem out_count (a i j : Nat) : (out a i).count j = if i = 0 ∧ j = 1 then 1 else 0 := by
  by_cases h : i = 0 ∧ j = 1
  · obtain ⟨rfl, rfl⟩ := h; rfl
  · rw [if_neg h]; unfold out; split
    · next hi => exact List.count_eq_zero.mpr fun hj => h ⟨hi, List.mem_singleton.mp hj⟩
    · rfl

theorem inn_count (a i j : Nat) : (inn a j).count i = if i = 0 ∧ j = 1 then 1 else 0 := by
  by_cases h : i = 0 ∧ j = 1
  · obtain ⟨rfl, rfl⟩ := h; rfl
  · rw [if_neg h]; unfold inn; split
    · next hj => exact List.count_eq_zero.mpr fun hi => h ⟨List.mem_singleton.mp hi, hj⟩
    · rfl

/-- the rate of that edge is `u 0 0 * v 1 0 = 1` -/
theorem ratesAbove : RatesAbove false 1 1 2 out u v w := by
  intro a i j _ _ _ hc
  obtain ⟨rfl, rfl⟩ : i = 0 ∧ j = 1 := by
    by_contra h
    rw [out_count, if_neg h] at hc
    exact Nat.lt_irrefl 0 hc
  rw [rate_uv, u_zero, v_one, one_mul]; exact eps_lt_one

theorem hypotheses_satisfiable :
    DirWF false 2 [0] [1] out inn w w ∧ StateOK 2 [0] [1] w w u v ∧
    RatesAbove false 1 1 2 out u v w ∧
    RatesAbove false 1 1 2 out (u1 false 1 1 2 [0] [1] out w u v) v w ∧
    RatesAbove false 1 1 2 out (u1 false 1 1 2 [0] [1] out w u v) (v1 false 1 1 2 [0] [1] out inn w w u v) w ∧
    RatesAbove false 1 1 2 out (u1 false 1 1 2 [0] [1] out w u v) (v1 false 1 1 2 [0] [1] out inn w w u v)
      (w1 false 1 1 2 [0] [1] out inn w w u v) ∧
    (∀ i k, i < 2 → k < 1 → maskV false 1 1 [0] [1] w v u i k → ¬ |rawV false 1 1 2 [1] out w v u i k| < ε) ∧
    (∀ j k, j < 2 → k < 1 → maskV false 1 1 [1] [0] w (u1 false 1 1 2 [0] [1] out w u v) v j k →
      ¬ |rawV false 1 1 2 [0] inn w (u1 false 1 1 2 [0] [1] out w u v) v j k| < ε) ∧
    (∀ k q a, k < 1 → q < 1 → a < 1 →
      maskW [0] [1] (u1 false 1 1 2 [0] [1] out w u v) (v1 false 1 1 2 [0] [1] out inn w w u v) w k q a →
      ¬ |rawW false 1 2 [0] [1] out (u1 false 1 1 2 [0] [1] out w u v) (v1 false 1 1 2 [0] [1] out inn w w u v) w a k q| < ε) := by
  rw [w1_fix, v1_fix, u1_fix]
  refine ⟨⟨?_, ?_, List.nodup_singleton 0, List.nodup_singleton 1, by decide, by decide⟩, ⟨?_, ?_, ?_, ?_, ?_, ?_⟩,
    ratesAbove, ratesAbove, ratesAbove, ratesAbove, ?_, ?_, ?_⟩
  · intro a i j; rw [inn_count, out_count]
  · intro k l a; exact ⟨fun _ => rfl, fun _ => rfl⟩
  · intro i k; unfold u; split
    · exact zero_le_one
    · exact le_rfl
  · intro j q; unfold v; split
    · exact zero_le_one
    · exact le_rfl
  · intro k q a; exact zero_le_one
  · intro k q a; exact zero_le_one
  · intro i k _ hn
    exact if_neg fun h => hn (by rw [h]; exact List.mem_singleton_self 0)
  · intro j q _ hn
    exact if_neg fun h => hn (by rw [h]; exact List.mem_singleton_self 1)
  · intro i k _ _ hm
    obtain rfl := List.mem_singleton.mp hm.2.1
    rw [rawV_edge (fun _ => rfl) Nat.one_lt_two u_zero v_one]; exact hone
  · intro j k _ _ hm
    obtain rfl := List.mem_singleton.mp hm.2.1
    rw [rawV_edge (fun _ => rfl) Nat.zero_lt_two v_one u_zero]; exact hone
  · intro k q a _ _ _ _
    unfold rawW
    rw [wZ_one, wAcc_one, show w k q a = 1 from rfl, div_one, one_mul]; exact hone

example :
    poissonLL false 1 1 2 out u v w ≤
      poissonLL false 1 1 2 out (u1 false 1 1 2 [0] [1] out w u v) (v1 false 1 1 2 [0] [1] out inn w w u v)
        (w1 false 1 1 2 [0] [1] out inn w w u v) := by
  obtain ⟨h1, h2, h3, h4, h5, h6, h7, h8, h9⟩ := hypotheses_satisfiable
  exact sweep_ascent_directed false 1 1 2 [0] [1] out inn w w u v h1 h2 h3 h4 h5 h6 h7 h8 h9

end MTProps.C01.NonVacuity
