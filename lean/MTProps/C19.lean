/-
C19 — the Python front end dispatches to the variant its arguments name.
`Gen.pyxTable` (16 `if` blocks of multitensor.pyx) and `Gen.cliTable` (the switch of
multitensor.cpp) are regenerated from the sources by the translator on every run; the
configuration space is finite (16 elements), so `decide` over it is the exhaustive proof.  Also: the
shape of the call the command line makes, and the prologue and epilogue of the .pyx, pinned.
-/
import MT.Generated.UtilsCode
import MT.Generated.Dispatch

namespace MTProps.C19
open MT

/-- the 16 argument combinations of the Python entry point -/
structure Cfg where
  wint : Bool
  directed : Bool
  assort : Bool
  file : Bool
deriving DecidableEq, Repr

/-- the condition of a block holds for the configuration (the blocks are independent `if`s) -/
def fires (r : Gen.PyxRow) (c : Cfg) : Bool :=
  r.cWint == c.wint && r.cDirected == c.directed && r.cAssort == c.assort && r.cFile == c.file

/-- the instantiation the arguments name -/
def expected (c : Cfg) : Gen.Inst :=
  { directed := c.directed, assort := c.assort, fromFile := c.file,
    initInner := if c.file then some c.assort else none }

def goodRow (r : Gen.PyxRow) (c : Cfg) : Bool :=
  r.inst == expected c && r.wint == c.wint && r.wcastInt == c.wint && r.allocV == c.directed

def cfgOk (c : Cfg) : Bool :=
  match Gen.pyxTable.filter (fires · c) with
  | [r] => goodRow r c
  | _ => false

theorem pyx_dispatch_total_correct_all : ∀ w d a f, cfgOk ⟨w, d, a, f⟩ = true := by decide

/-- for each of the 16 combinations exactly one library instantiation is invoked, whose graph
direction, affinity tensor type, affinity initialiser and weight type match the arguments, and
the in-membership matrix is allocated exactly for directed runs -/
theorem pyx_dispatch_total_correct (c : Cfg) :
    ∃ r, Gen.pyxTable.filter (fires · c) = [r] ∧ r.inst = expected c ∧ r.wint = c.wint ∧
      r.wcastInt = c.wint ∧ r.allocV = c.directed := by
  have h := pyx_dispatch_total_correct_all c.wint c.directed c.assort c.file
  unfold cfgOk at h
  split at h
  · rename_i r hr
    refine ⟨r, hr, ?_⟩
    simp only [goodRow, Bool.and_eq_true, beq_iff_eq] at h
    exact ⟨h.1.1.1, h.1.1.2, h.1.2, h.2⟩
  · exact absurd h (by simp)

/-- `pyxBlockCount` counts the `if` blocks in the text: each is in the table, and by
`pyx_dispatch_total_correct` none is dead -/
theorem pyx_block_count : Gen.pyxTable.length = 16 ∧ Gen.pyxBlockCount = 16 := by decide

def cliOk (d a f : Bool) : Bool :=
  match Gen.cliTable.lookup (Gen.cliSelection d.toNat a.toNat f.toNat) with
  | some (inst, allocV) =>
    inst == { directed := d, assort := a, fromFile := f, initInner := if f then some a else none }
      && allocV == d
  | none => false

theorem cli_dispatch_total_correct : ∀ d a f : Bool, cliOk d a f = true := by decide

theorem cli_lookup : ∀ d a f : Bool, Gen.cliTable.lookup (Gen.cliSelection d.toNat a.toNat f.toNat) =
    some ({ directed := d, assort := a, fromFile := f, initInner := if f then some a else none }, d) := by
  decide

theorem pyx_agrees_cli (c : Cfg) :
    ∃ r, Gen.pyxTable.filter (fires · c) = [r] ∧
      Gen.cliTable.lookup (Gen.cliSelection c.directed.toNat c.assort.toNat c.file.toNat)
        = some (r.inst, r.allocV) := by
  obtain ⟨r, hr, hi, _, _, hv⟩ := pyx_dispatch_total_correct c
  exact ⟨r, hr, by rw [cli_lookup, hi, hv]; rfl⟩

/-- every call in the switch passes the same arguments, in the documented order; the in-membership file is
written exactly for directed runs -/
theorem cli_call_shape :
    Gen.cliCallArgs =
      ["edges_start,edges_end,edges_weight,nof_realizations,max_nof_iterations,nof_convergences,labels,u,v,affinity,random_generator"]
    ∧ Gen.cliVFileIffDirected = true := ⟨rfl, rfl⟩

theorem pyx_v_none_unless_directed :
    Gen.pyxVNoneUnlessDirected = true ∧ Gen.pyxVStartsEmpty = true := by decide

example : cfgOk ⟨false, true, true, true⟩ = true := by decide

/-- everything `run` of multitensor.pyx does before the sixteen dispatch blocks, as it stands in the source -/
theorem pyx_prologue_documented :
    Gen.pyxRunPrologue = "defrun(adjacency_filename,nof_groups,directed=True,assortative=False,nof_realizations=1,max_nof_iterations=500,nof_convergences=10,init_affinity_filename=None,weigths_dtype=float,seed=None):adj_data=numpy.loadtxt(adjacency_filename)edges_start=adj_data[:,0].astype(int)edges_end=adj_data[:,1].astype(int)edges_weights=adj_data[:,2:].astype(weigths_dtype).ravel()nof_edges=edges_start.sizenof_layers=edges_weights.size//nof_edgescdefsize_tnof_vertices=get_num_vertices[vertex_t](<constvector[vertex_t]&>edges_start,<constvector[vertex_t]&>edges_end)cdefMatrix[numpy.float_t]c_u=Matrix[numpy.float_t](nof_vertices,nof_groups)cdefMatrix[numpy.float_t]c_v=Matrix[numpy.float_t](0,0)cdefvector[numpy.float_t]c_affinityifinit_affinity_filename:w_data=numpy.loadtxt(init_affinity_filename)ifassortative:init_affinity=w_data[:,1:].ravel()else:init_affinity=(numpy.diag(l)forlinw_data[:,1:])init_affinity=numpy.concatenate([l.ravel()forlininit_affinity])c_affinity=<vector[numpy.float_t]>init_affinityelse:ifassortative:affinity_size=nof_groups*nof_layerselse:affinity_size=nof_groups*nof_groups*nof_layersc_affinity=vector[numpy.float_t](<size_t>affinity_size)cdefvector[vertex_t]labels=vector[vertex_t](nof_vertices)report=ReportWrapper()seed=seedifseedisnotNoneelsetime(NULL)cdefRandomGenerator[mt19937,uniform_real_distribution]*rng=\\newRandomGenerator[mt19937,uniform_real_distribution](seed)" := rfl

/-- everything `run` does after them -/
theorem pyx_epilogue_documented :
    Gen.pyxRunEpilogue = "finally:delrngu=numpy.array([[labels[i]]+[c_u(i,j)forjinrange(c_u.get_ncols())]foriinrange(c_u.get_nrows())])v=Noneifdirected:v=numpy.array([[labels[i]]+[c_v(i,j)forjinrange(c_v.get_ncols())]foriinrange(c_v.get_nrows())])affinity_ravel=numpy.array(c_affinity)num_vals=affinity_ravel.size//nof_layersaffinity=[]forlinrange(nof_layers):begin=l*num_valsend=(l+1)*num_valsw_l=affinity_ravel[begin:end].reshape((-1,nof_groups)).Tifassortative:w_l=w_l.ravel()affinity.append(w_l)returnu,v,affinity,report" := rfl

end MTProps.C19
