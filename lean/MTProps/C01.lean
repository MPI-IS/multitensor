/-
C01 — EM ascent: the log-likelihood never decreases between iterations.
Over ℝ, each of the three block updates of the modelled code is a masked minorise–maximise step of the
Poisson log-likelihood (which is multilinear in u, v, w): Jensen on the responsibilities.
Proved for the four directed variants (general | assortative, any start) under exactly the property's
exception clause — no entry truncated in the step (`hSnapU/V/W`) and every observed edge with rate > ε in
each sub-step (`RatesAbove`) — and for the likelihood the code's own `calculate_likelyhood` reports; the
w-step alone also in undirected mode.  Not proved: the undirected u-step, where the single matrix plays
both roles and the fixed side is the pre-update copy: not an MM step of the symmetric objective (and
indeed false for asymmetric user-supplied starts: KNOWN_FINDINGS.txt).
Tie: bit-exact trace correspondence + ascent monitor on the implementation's own trajectories.
-/
import MTProofs.AscentTie
import MTProofs.Congr
import MTProps.C02
import MTProofs.Invariants
import MTProofs.Control

namespace MTProps.C01
open MT MTProofs Finset

theorem rate_transpose {assort : Bool} {K : Nat} {wf wfT : Nat → Nat → Nat → ℝ}
    (hT : ∀ k l a, (assort = false → wfT k l a = wf l k a) ∧ (assort = true → wfT k k a = wf k k a))
    (u v : Nat → Nat → ℝ) (i j a : Nat) :
    rate assort K wfT u v j i a = rate assort K wf v u i j a :=
  rate_swap assort K wf wfT a (fun k l _ _ hd => by
    cases assort
    · exact (hT k l a).1 rfl
    · cases hd rfl; exact (hT k k a).2 rfl) u v i j

theorem specVEntry_support (assort : Bool) (K L N : Nat) (num den : List Nat) (nbr : Nat → Nat → List Nat)
    (wf : Nat → Nat → Nat → ℝ) (Y X : Nat → Nat → ℝ) (hnd : num.Nodup) (hlt : ∀ i ∈ num, i < N)
    (hz : ∀ i k, i < N → i ∉ num → X i k = 0) (l : Nat) :
    sumL num (fun i => specVEntry assort K L N num den nbr wf Y X i l) =
      ∑ i ∈ range N, specVEntry assort K L N num den nbr wf Y X i l :=
  sumL_support hnd hlt fun i hi hn => by
    rw [MTProps.C02.other_rows_untouched assort K L N num den nbr wf Y X i l hn]; exact hz i l hi hn

section directed
variable (assort : Bool) (K L N : Nat) (U V : List Nat) (out inn : Nat → Nat → List Nat)
  (wf wfT : Nat → Nat → Nat → ℝ) (u v : Nat → Nat → ℝ)

structure DirWF : Prop where
  innOut : ∀ a i j, (inn a j).count i = (out a i).count j
  transp : ∀ k l a, (assort = false → wfT k l a = wf l k a) ∧ (assort = true → wfT k k a = wf k k a)
  uNodup : U.Nodup
  vNodup : V.Nodup
  uLt : ∀ i ∈ U, i < N
  vLt : ∀ j ∈ V, j < N

/-- the state is non-negative and rows outside the source/target lists are zero (the C03 invariants) -/
structure StateOK : Prop where
  uNonneg : ∀ i k, 0 ≤ u i k
  vNonneg : ∀ j q, 0 ≤ v j q
  wNonneg : ∀ k q a, 0 ≤ wf k q a
  wTNonneg : ∀ k q a, 0 ≤ wfT k q a
  uZero : ∀ i k, i < N → i ∉ U → u i k = 0
  vZero : ∀ j q, j < N → j ∉ V → v j q = 0

/-- out-memberships after the u-step, in-memberships after the v-step, affinity after the w-step -/
noncomputable def u1 : Nat → Nat → ℝ := specVEntry assort K L N U V out wf v u
noncomputable def v1 : Nat → Nat → ℝ :=
  specVEntry assort K L N V U inn wfT (u1 assort K L N U V out wf u v) v
noncomputable def w1 : Nat → Nat → Nat → ℝ := fun k q a =>
  specWEntry assort K N U V out (u1 assort K L N U V out wf u v) (v1 assort K L N U V out inn wf wfT u v) wf k q a

theorem objV_transpose (hwf : DirWF assort N U V out inn wf wfT) (u v : Nat → Nat → ℝ) :
    objV assort K L N (multOf inn) wfT u v = freeLL assort K L N out u v wf := by
  unfold objV freeLL
  apply sum_congr rfl; intro a _
  rw [sum_comm]
  apply sum_congr rfl; intro i _
  apply sum_congr rfl; intro j _
  rw [rate_transpose hwf.transp u v i j a]
  unfold multOf
  rw [hwf.innOut a i j]

theorem objV_direct (u v : Nat → Nat → ℝ) :
    objV assort K L N (multOf out) wf v u = freeLL assort K L N out u v wf := rfl

theorem objW_direct (u v : Nat → Nat → ℝ) (w : Nat → Nat → Nat → ℝ) :
    objW assort K L N (multOf out) u v w = freeLL assort K L N out u v w := rfl

/-- One sweep of a directed variant does not decrease the likelihood that the code itself evaluates
(guarded), outside the property's two exceptions: every observed edge has rate > ε before, between and
after the sub-steps (`hR0`–`hR3`), and no entry was truncated (`hSnapU/V/W`). -/
theorem sweep_ascent_directed (hwf : DirWF assort N U V out inn wf wfT)
    (hs : StateOK N U V wf wfT u v)
    (hR0 : RatesAbove assort K L N out u v wf)
    (hR1 : RatesAbove assort K L N out (u1 assort K L N U V out wf u v) v wf)
    (hR2 : RatesAbove assort K L N out (u1 assort K L N U V out wf u v) (v1 assort K L N U V out inn wf wfT u v) wf)
    (hR3 : RatesAbove assort K L N out (u1 assort K L N U V out wf u v) (v1 assort K L N U V out inn wf wfT u v)
      (w1 assort K L N U V out inn wf wfT u v))
    (hSnapU : ∀ i k, i < N → k < K → maskV assort K L U V wf v u i k →
      ¬ |rawV assort K L N V out wf v u i k| < ε)
    (hSnapV : ∀ j k, j < N → k < K → maskV assort K L V U wfT (u1 assort K L N U V out wf u v) v j k →
      ¬ |rawV assort K L N U inn wfT (u1 assort K L N U V out wf u v) v j k| < ε)
    (hSnapW : ∀ k q a, k < K → q < K → a < L →
      maskW U V (u1 assort K L N U V out wf u v) (v1 assort K L N U V out inn wf wfT u v) wf k q a →
      ¬ |rawW assort K N U V out (u1 assort K L N U V out wf u v) (v1 assort K L N U V out inn wf wfT u v) wf a k q| < ε) :
    poissonLL assort K L N out u v wf ≤
      poissonLL assort K L N out (u1 assort K L N U V out wf u v) (v1 assort K L N U V out inn wf wfT u v)
        (w1 assort K L N U V out inn wf wfT u v) := by
  rw [poissonLL_eq_free hR0, poissonLL_eq_free hR3]
  have u1Nonneg : ∀ i k, 0 ≤ u1 assort K L N U V out wf u v i k := specVEntry_nonneg hs.uNonneg hs.vNonneg hs.wNonneg
  have supU1 := specVEntry_support assort K L N U V out wf v u hwf.uNodup hwf.uLt hs.uZero
  have step1 := specV_ascent assort K L N U V out wf v u
    (fun l => sumL_support hwf.vNodup hwf.vLt fun j hj hn => hs.vZero j l hj hn)
    hs.uNonneg hs.vNonneg hs.wNonneg hR0 hSnapU
  -- v-step: a membership step of the transposed problem, which has the same rates and objective
  have step2 := specV_ascent assort K L N V U inn wfT _ v supU1 hs.vNonneg u1Nonneg hs.wTNonneg
    (fun a j i ha hj hi hc => by
      rw [rate_transpose hwf.transp _ v i j a]
      exact hR1 a i j ha hi hj (by rwa [← hwf.innOut a i j]))
    hSnapV
  rw [objV_transpose assort K L N U V out inn wf wfT hwf, objV_transpose assort K L N U V out inn wf wfT hwf] at step2
  have step3 := specW_ascent assort K L N U V out _ _ wf supU1
    (specVEntry_support assort K L N V U inn wfT _ v hwf.vNodup hwf.vLt hs.vZero) u1Nonneg
    (specVEntry_nonneg hs.vNonneg u1Nonneg hs.wTNonneg) hs.wNonneg hR2 hSnapW
  exact step1.trans (step2.trans step3)

end directed

section model
variable (assort : Bool) (K : Nat) (nv : NetView) (s : State ℝ)

/-- what a directed network view provides (true of every view built from an edge list) -/
structure ViewOK (N : Nat) : Prop where
  dir : nv.directed = true
  wf : MTProps.C02.ViewWF nv N
  innOut : ∀ a i j, (nv.inn a j).count i = (nv.out a i).count j
  uNodup : nv.uList.Nodup
  vNodup : nv.vList.Nodup
  uLt : ∀ i ∈ nv.uList, i < N
  vLt : ∀ j ∈ nv.vList, j < N

structure DirShape : Prop where
  vR : s.v.R = s.u.R
  wR : s.w.R = K
  wT : s.w.T = nv.nL

noncomputable abbrev uA (s : State ℝ) : Nat → Nat → ℝ := fun i k => s.u.get i k 0
noncomputable abbrev vA (s : State ℝ) : Nat → Nat → ℝ := fun i k => s.v.get i k 0

theorem views_transp (W : Tens ℝ) :
    ∀ k l a, (assort = false → wView assort true W k l a = wView assort false W l k a) ∧
      (assort = true → wView assort true W k k a = wView assort false W k k a) := by
  intro k l a
  constructor
  · intro h; subst h; rfl
  · intro h; subst h; rfl

theorem sweep_factors (hv : ViewOK nv s.u.R) (hsh : DirShape K nv s) :
    MAgree K s.u.R (uA (sweep assort K nv s))
      (u1 assort K nv.nL s.u.R nv.uList nv.vList nv.out (wView assort false s.w) (uA s) (vA s)) ∧
    MAgree K s.u.R (vA (sweep assort K nv s))
      (v1 assort K nv.nL s.u.R nv.uList nv.vList nv.out nv.inn (wView assort false s.w) (wView assort true s.w)
        (uA s) (vA s)) ∧
    WAgree assort K nv.nL (wView assort false (sweep assort K nv s).w)
      (w1 assort K nv.nL s.u.R nv.uList nv.vList nv.out nv.inn (wView assort false s.w) (wView assort true s.w)
        (uA s) (vA s)) := by
  have hd := hv.dir
  have hu : MAgree K s.u.R (uA (stepU assort K nv s)) (u1 assort K nv.nL s.u.R nv.uList nv.vList nv.out
      (wView assort false s.w) (uA s) (vA s)) := fun i k hi hk => by
    show (stepU assort K nv s).u.get i k 0 = _
    rw [MTProps.C02.stepU_entry assort K nv s hv.wf hi hk, if_pos hd]; rfl
  have hvv : MAgree K s.u.R (vA (stepV assort K nv (stepU assort K nv s))) (v1 assort K nv.nL s.u.R nv.uList
      nv.vList nv.out nv.inn (wView assort false s.w) (wView assort true s.w) (uA s) (vA s)) := fun j q hj hq => by
    show (stepV assort K nv (stepU assort K nv s)).v.get j q 0 = _
    rw [MTProps.C02.stepV_entry assort K nv _ hd (hsh.vR ▸ hv.wf) (hsh.vR ▸ hj) hq, stepU_v, stepU_w, hsh.vR]
    exact specVEntry_congr hv.uLt
      (fun _ _ _ _ _ _ _ => rfl) hu (fun _ _ _ _ => rfl) hj hq
  refine ⟨?_, hvv, fun k q a hk hq ha hdiag => ?_⟩
  · show MAgree K s.u.R (uA (stepV assort K nv (stepU assort K nv s))) _
    unfold uA; rw [stepV_u]; exact hu
  · unfold sweep
    rw [MTProps.C02.stepW_entry assort K nv _ (by rw [stepV_u]; exact hv.wf) hk hq ha hdiag,
      stepV_u, stepV_w, stepU_w, if_pos hd]
    refine specWEntry_congr hv.uLt hv.vLt
      (fun _ _ _ _ _ _ _ => rfl) hu ?_ hk hq ha hdiag
    exact hvv

/-- C01 on the model: `sweep_ascent_directed` for `sweep` and the likelihood the model's
`calculate_likelyhood` reports.  All hypotheses are about the state before the sweep and the published
updates computed from it. -/
theorem model_sweep_ascent_directed (hv : ViewOK nv s.u.R) (hsh : DirShape K nv s)
    (hs : StateOK s.u.R nv.uList nv.vList (wView assort false s.w) (wView assort true s.w) (uA s) (vA s))
    (hR0 : RatesAbove assort K nv.nL s.u.R nv.out (uA s) (vA s) (wView assort false s.w))
    (hR1 : RatesAbove assort K nv.nL s.u.R nv.out
      (u1 assort K nv.nL s.u.R nv.uList nv.vList nv.out (wView assort false s.w) (uA s) (vA s)) (vA s)
      (wView assort false s.w))
    (hR2 : RatesAbove assort K nv.nL s.u.R nv.out
      (u1 assort K nv.nL s.u.R nv.uList nv.vList nv.out (wView assort false s.w) (uA s) (vA s))
      (v1 assort K nv.nL s.u.R nv.uList nv.vList nv.out nv.inn (wView assort false s.w) (wView assort true s.w) (uA s) (vA s))
      (wView assort false s.w))
    (hR3 : RatesAbove assort K nv.nL s.u.R nv.out
      (u1 assort K nv.nL s.u.R nv.uList nv.vList nv.out (wView assort false s.w) (uA s) (vA s))
      (v1 assort K nv.nL s.u.R nv.uList nv.vList nv.out nv.inn (wView assort false s.w) (wView assort true s.w) (uA s) (vA s))
      (w1 assort K nv.nL s.u.R nv.uList nv.vList nv.out nv.inn (wView assort false s.w) (wView assort true s.w) (uA s) (vA s)))
    (hSnapU : ∀ i k, i < s.u.R → k < K →
      maskV assort K nv.nL nv.uList nv.vList (wView assort false s.w) (vA s) (uA s) i k →
      ¬ |rawV assort K nv.nL s.u.R nv.vList nv.out (wView assort false s.w) (vA s) (uA s) i k| < ε)
    (hSnapV : ∀ j k, j < s.u.R → k < K →
      maskV assort K nv.nL nv.vList nv.uList (wView assort true s.w)
        (u1 assort K nv.nL s.u.R nv.uList nv.vList nv.out (wView assort false s.w) (uA s) (vA s)) (vA s) j k →
      ¬ |rawV assort K nv.nL s.u.R nv.uList nv.inn (wView assort true s.w)
        (u1 assort K nv.nL s.u.R nv.uList nv.vList nv.out (wView assort false s.w) (uA s) (vA s)) (vA s) j k| < ε)
    (hSnapW : ∀ k q a, k < K → q < K → a < nv.nL →
      maskW nv.uList nv.vList
        (u1 assort K nv.nL s.u.R nv.uList nv.vList nv.out (wView assort false s.w) (uA s) (vA s))
        (v1 assort K nv.nL s.u.R nv.uList nv.vList nv.out nv.inn (wView assort false s.w) (wView assort true s.w) (uA s) (vA s))
        (wView assort false s.w) k q a →
      ¬ |rawW assort K s.u.R nv.uList nv.vList nv.out
        (u1 assort K nv.nL s.u.R nv.uList nv.vList nv.out (wView assort false s.w) (uA s) (vA s))
        (v1 assort K nv.nL s.u.R nv.uList nv.vList nv.out nv.inn (wView assort false s.w) (wView assort true s.w) (uA s) (vA s))
        (wView assort false s.w) a k q| < ε) :
    stateLik assort K nv s ≤ stateLik assort K nv (sweep assort K nv s) := by
  obtain ⟨hu, hvv, hw⟩ := sweep_factors assort K nv s hv hsh
  rw [stateLik_eq, stateLik_eq, sweep_u_R]
  simp only [hv.dir, ↓reduceIte]
  rw [MTProofs.poissonLL_congr hw hu hvv]
  exact sweep_ascent_directed assort K nv.nL s.u.R nv.uList nv.vList nv.out nv.inn
    (wView assort false s.w) (wView assort true s.w) (uA s) (vA s)
    ⟨hv.innOut, views_transp assort s.w, hv.uNodup, hv.vNodup, hv.uLt, hv.vLt⟩ hs hR0 hR1 hR2 hR3 hSnapU hSnapV hSnapW

end model

section trajectory
variable (assort : Bool) (K : Nat) (nv : NetView)

/-- the sweep from `s` meets neither of the property's exceptions: every observed edge has rate > ε in
each sub-step, and no entry is truncated by any of the three updates -/
structure ExceptionFree (s : State ℝ) : Prop where
  r0 : RatesAbove assort K nv.nL s.u.R nv.out (uA s) (vA s) (wView assort false s.w)
  r1 : RatesAbove assort K nv.nL s.u.R nv.out
    (u1 assort K nv.nL s.u.R nv.uList nv.vList nv.out (wView assort false s.w) (uA s) (vA s)) (vA s)
    (wView assort false s.w)
  r2 : RatesAbove assort K nv.nL s.u.R nv.out
    (u1 assort K nv.nL s.u.R nv.uList nv.vList nv.out (wView assort false s.w) (uA s) (vA s))
    (v1 assort K nv.nL s.u.R nv.uList nv.vList nv.out nv.inn (wView assort false s.w) (wView assort true s.w) (uA s) (vA s))
    (wView assort false s.w)
  r3 : RatesAbove assort K nv.nL s.u.R nv.out
    (u1 assort K nv.nL s.u.R nv.uList nv.vList nv.out (wView assort false s.w) (uA s) (vA s))
    (v1 assort K nv.nL s.u.R nv.uList nv.vList nv.out nv.inn (wView assort false s.w) (wView assort true s.w) (uA s) (vA s))
    (w1 assort K nv.nL s.u.R nv.uList nv.vList nv.out nv.inn (wView assort false s.w) (wView assort true s.w) (uA s) (vA s))
  snapU : ∀ i k, i < s.u.R → k < K →
    maskV assort K nv.nL nv.uList nv.vList (wView assort false s.w) (vA s) (uA s) i k →
    ¬ |rawV assort K nv.nL s.u.R nv.vList nv.out (wView assort false s.w) (vA s) (uA s) i k| < ε
  snapV : ∀ j k, j < s.u.R → k < K →
    maskV assort K nv.nL nv.vList nv.uList (wView assort true s.w)
      (u1 assort K nv.nL s.u.R nv.uList nv.vList nv.out (wView assort false s.w) (uA s) (vA s)) (vA s) j k →
    ¬ |rawV assort K nv.nL s.u.R nv.uList nv.inn (wView assort true s.w)
      (u1 assort K nv.nL s.u.R nv.uList nv.vList nv.out (wView assort false s.w) (uA s) (vA s)) (vA s) j k| < ε
  snapW : ∀ k q a, k < K → q < K → a < nv.nL →
    maskW nv.uList nv.vList
      (u1 assort K nv.nL s.u.R nv.uList nv.vList nv.out (wView assort false s.w) (uA s) (vA s))
      (v1 assort K nv.nL s.u.R nv.uList nv.vList nv.out nv.inn (wView assort false s.w) (wView assort true s.w) (uA s) (vA s))
      (wView assort false s.w) k q a →
    ¬ |rawW assort K s.u.R nv.uList nv.vList nv.out
      (u1 assort K nv.nL s.u.R nv.uList nv.vList nv.out (wView assort false s.w) (uA s) (vA s))
      (v1 assort K nv.nL s.u.R nv.uList nv.vList nv.out nv.inn (wView assort false s.w) (wView assort true s.w) (uA s) (vA s))
      (wView assort false s.w) a k q| < ε

theorem stateOK_of_wf (s : State ℝ) (hd : nv.directed = true) (h : WFState assort K nv s) :
    DirShape K nv s ∧
    StateOK s.u.R nv.uList nv.vList (wView assort false s.w) (wView assort true s.w) (uA s) (vA s) :=
  ⟨⟨(h.vShape hd).1, h.wR, h.wT⟩, ⟨fun i k => h.uNonneg i k 0, fun j q => h.vNonneg j q 0,
    wView_nonneg assort false h.wNonneg, wView_nonneg assort true h.wNonneg,
    fun _ k hi hn => h.uZero' hi hn k, fun _ q hj hn => h.vZero' hd hj hn q⟩⟩

/-- C01 along a realization: every pair of consecutive iterations `n → n+1` of a directed variant is an
ascent step unless it meets one of the two exceptions; C03's invariant supplies every other hypothesis. -/
theorem realization_ascent (s0 : State ℝ) (hv : ViewOK nv s0.u.R) (hwf0 : WFState assort K nv s0) (n : Nat)
    (hfree : ExceptionFree assort K nv (traj assort K nv s0 n)) :
    stateLik assort K nv (traj assort K nv s0 n) ≤ stateLik assort K nv (traj assort K nv s0 (n + 1)) := by
  obtain ⟨hwfn, hRn⟩ := iterate_sweep_induction assort K nv _
    (fun s hR => sweep_wf assort K nv s (hR ▸ hv.wf)) hwf0 n
  have hvn : ViewOK nv (traj assort K nv s0 n).u.R := by
    show ViewOK nv ((sweep assort K nv)^[n] s0).u.R
    rw [hRn]; exact hv
  obtain ⟨hsh, hok⟩ := stateOK_of_wf assort K nv _ hv.dir hwfn
  rw [traj_succ]
  exact model_sweep_ascent_directed assort K nv _ hvn hsh hok hfree.r0 hfree.r1 hfree.r2 hfree.r3
    hfree.snapU hfree.snapV hfree.snapW

end trajectory

theorem built_view_ok {β ω : Type} [DecidableEq β] [Weight ω] (starts ends : List β) (weights : List ω) :
    ViewOK (build true starts ends weights).view (build true starts ends weights).labels.length :=
  let n := build true starts ends weights
  ⟨rfl, MTProps.C02.built_view_wf true starts ends weights,
    fun a i j => by rw [build_view_inn, build_view_out]; exact inn_count_eq_out_count n rfl a i j,
    (listed_nodup n).1, (listed_nodup n).2,
    fun i hi => ((listed_lt n).1 i hi).trans_le (nV_le n), fun j hj => ((listed_lt n).2 j hj).trans_le (nV_le n)⟩

/-- for any memberships, so also the w-step of an undirected sweep (`v = u`, `V = U`) -/
theorem affinity_step_ascent (assort : Bool) (K L N : Nat) (U V : List Nat) (out : Nat → Nat → List Nat)
    (u v : Nat → Nat → ℝ) (w : Nat → Nat → Nat → ℝ)
    (hU : ∀ k, sumL U (fun i => u i k) = ∑ i ∈ range N, u i k)
    (hV : ∀ q, sumL V (fun j => v j q) = ∑ j ∈ range N, v j q)
    (hu : ∀ i k, 0 ≤ u i k) (hv : ∀ j q, 0 ≤ v j q) (hw : ∀ k q a, 0 ≤ w k q a)
    (hR : RatesAbove assort K L N out u v w)
    (hNoSnap : ∀ k q a, k < K → q < K → a < L → maskW U V u v w k q a →
      ¬ |rawW assort K N U V out u v w a k q| < ε) :
    freeLL assort K L N out u v w ≤
      freeLL assort K L N out u v (fun k q a => specWEntry assort K N U V out u v w k q a) :=
  specW_ascent assort K L N U V out u v w hU hV hu hv hw hR hNoSnap

/-- all that is proved about an undirected sweep: its w-step ascends.  No ascent of the u-step, hence
of a whole undirected sweep, is proved (see the head of the file). -/
theorem sweep_ascent_undirected_partial (assort : Bool) (K L N : Nat) (U : List Nat) (out : Nat → Nat → List Nat)
    (u' : Nat → Nat → ℝ) (w : Nat → Nat → Nat → ℝ)
    (hU : ∀ k, sumL U (fun i => u' i k) = ∑ i ∈ range N, u' i k)
    (hu : ∀ i k, 0 ≤ u' i k) (hw : ∀ k q a, 0 ≤ w k q a)
    (hR : RatesAbove assort K L N out u' u' w)
    (hNoSnap : ∀ k q a, k < K → q < K → a < L → maskW U U u' u' w k q a →
      ¬ |rawW assort K N U U out u' u' w a k q| < ε) :
    freeLL assort K L N out u' u' w ≤
      freeLL assort K L N out u' u' (fun k q a => specWEntry assort K N U U out u' u' w k q a) :=
  affinity_step_ascent assort K L N U U out u' u' w hU hU hu hu hw hR hNoSnap

end MTProps.C01
