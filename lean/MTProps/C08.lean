/-
C08 — the network built is exactly the multigraph the edge list describes.
Statements are about `MT.build` (graph.hpp `Network` constructor, `extract_vertices_with_edges`,
utils.hpp `get_num_vertices`).  Tie to the code: the `net` correspondence dumps the real boost graphs
(per layer, per vertex out- and in-edge lists, in iteration order) and compares them with the model,
exhaustively for small record lists and randomly beyond, for all label and weight types.
-/
import MTProofs.Graph

namespace MTProps.C08
open MT MTProofs

section
variable {β ω : Type} [DecidableEq β] [Weight ω]
variable (directed : Bool) (starts ends : List β) (weights : List ω)

/-- first appearance in the order `start[0], end[0], start[1], …`; the one list serves every layer -/
theorem labels_first_appearance :
    (build directed starts ends weights).labels = firstApp (interleave starts ends) := rfl

theorem labels_nodup : (build directed starts ends weights).labels.Nodup :=
  firstApp_nodup _

/-- whatever the weights: records with all-zero weights still create their endpoints -/
theorem endpoints_are_vertices (h : starts.length = ends.length) (x : β) :
    x ∈ (build directed starts ends weights).labels ↔ x ∈ starts ∨ x ∈ ends := by
  rw [labels_first_appearance, mem_firstApp, mem_interleave h]

/-- the vertex count computed from the union of start and end labels (utils.hpp `get_num_vertices`,
used by the validation) is the number of vertices the network gets -/
theorem vertex_count_consistent (h : starts.length = ends.length) :
    numVertices starts ends = (build directed starts ends weights).labels.length :=
  numVertices_eq starts ends h

/-- the index of a label is its position in the first-appearance list (`idx_map` lookup) -/
theorem record_indices :
    (build directed starts ends weights).recs =
      (starts.zip ends).zipIdx.map fun p =>
        { src := (firstApp (interleave starts ends)).idxOf p.1.1,
          dst := (firstApp (interleave starts ends)).idxOf p.1.2,
          un := chunkUnits weights (if starts.length = 0 then 0 else weights.length / starts.length) p.2 } :=
  rfl

end

theorem units_nat (w : Nat) : Weight.units w = w := rfl

theorem units_int (w : Int) : Weight.units w = w.toNat := rfl

theorem units_float (w : Float) :
    Weight.units w = if w > (MTExtra.eps : Float) then w.ceil.toUInt64.toNat else 0 := rfl

section
variable {β : Type} (n : Net β)

/-- the number of parallel edges `i → j` of a layer is the sum of the units of the records matching
`(i,j)`, plus — undirected — of those matching `(j,i)`: an undirected self-loop record counts twice in
the list of its vertex -/
theorem build_multiplicity (a i j : Nat) :
    (n.out a i).count j =
      (n.recs.map fun r =>
        (if r.src = i ∧ r.dst = j then Net.unitsAt r a else 0) +
        (if !n.directed ∧ r.dst = i ∧ r.src = j then Net.unitsAt r a else 0)).sum :=
  out_count n a i j

theorem build_in_multiplicity (a i j : Nat) :
    (n.inn a j).count i =
      (n.recs.map fun r => if r.src = i ∧ r.dst = j then Net.unitsAt r a else 0).sum :=
  inn_count n a i j

theorem sources_are_support (i : Nat) :
    i ∈ n.uList ↔ i < n.nV ∧ ∃ a, a < n.nL ∧ n.out a i ≠ [] := by
  unfold Net.uList
  simp only [List.mem_filter, List.mem_range, List.any_eq_true, Bool.not_eq_eq_eq_not, Bool.not_true,
    List.isEmpty_eq_false_iff]

theorem targets_are_support (hd : n.directed = true) (j : Nat) :
    j ∈ n.vList ↔ j < n.nV ∧ ∃ a, a < n.nL ∧ n.inn a j ≠ [] := by
  unfold Net.vList
  simp only [hd, ↓reduceIte, List.mem_filter, List.mem_range, List.any_eq_true, Bool.not_eq_eq_eq_not,
    Bool.not_true, List.isEmpty_eq_false_iff]

/-- undirected: one shared list, that is, any incident edge (the out-lists hold both orientations) -/
theorem targets_undirected (hd : n.directed = false) : n.vList = n.uList :=
  vList_of_undirected n hd

theorem undirected_symmetric (hd : n.directed = false) (a i j : Nat) :
    (n.out a i).count j = (n.out a j).count i :=
  out_count_symm n hd a i j

end

/-- weight `m` ≡ `m` consecutive unit-weight records: the out-list piece of one record -/
theorem weight_expand_piece (m x : Nat) :
    List.replicate m x = (List.range m).flatMap fun _ => List.replicate 1 x := by
  induction m with
  | zero => simp
  | succ m ih =>
    rw [List.range_succ, List.flatMap_append, ← ih]
    simp [List.replicate_succ']

/-- a record with per-layer units `m_a` replaced by `max m_a` consecutive records whose layer-`a` unit is
1 for the first `m_a` of them (an all-zero record is kept: it still creates its endpoints) -/
def expandRec (r : IRec) : List IRec :=
  let m := r.un.foldl max 0
  if m = 0 then [r]
  else (List.range m).map fun t => { r with un := r.un.map fun w => if t < w then 1 else 0 }

theorem flatMap_range_ite {γ : Type} (l : List γ) {w m : Nat} (h : w ≤ m) :
    (List.range m).flatMap (fun t => if t < w then l else []) = (List.replicate w l).flatten := by
  induction m generalizing w with
  | zero => rw [Nat.le_zero.mp h]; rfl
  | succ m ih =>
    rw [List.range_succ, List.flatMap_append, List.flatMap_singleton]
    rcases Nat.lt_or_eq_of_le h with hlt | rfl
    · rw [ih (Nat.le_of_lt_succ hlt), if_neg (Nat.not_lt.mpr (Nat.le_of_lt_succ hlt)), List.append_nil]
    · rw [if_pos (Nat.lt_succ_self m), List.replicate_succ', List.flatten_append, List.flatten_singleton,
        ← ih (Nat.le_refl m)]
      congr 1
      exact List.flatMap_congr fun t ht => by
        rw [if_pos (List.mem_range.mp ht), if_pos (Nat.lt_succ_of_lt (List.mem_range.mp ht))]

theorem le_foldl_max (l : List Nat) (init : Nat) : init ≤ l.foldl max init ∧ ∀ w ∈ l, w ≤ l.foldl max init := by
  induction l generalizing init with
  | nil => exact ⟨le_refl _, fun w hw => by simp at hw⟩
  | cons x xs ih =>
    simp only [List.foldl_cons]
    obtain ⟨h1, h2⟩ := ih (max init x)
    refine ⟨le_trans (le_max_left _ _) h1, fun w hw => ?_⟩
    rcases List.mem_cons.mp hw with rfl | hw
    · exact le_trans (le_max_right _ _) h1
    · exact h2 w hw

theorem unitsAt_le_max (r : IRec) (a : Nat) : Net.unitsAt r a ≤ r.un.foldl max 0 := by
  unfold Net.unitsAt
  by_cases h : a < r.un.length
  · rw [← List.getElem_eq_getD (h := h) 0]
    exact (le_foldl_max r.un 0).2 _ (List.getElem_mem h)
  · rw [getD_eq_zero (Nat.le_of_not_lt h)]; exact Nat.zero_le _

theorem unitsAt_expand (r : IRec) (t a : Nat) :
    Net.unitsAt { r with un := r.un.map fun w => if t < w then 1 else 0 } a =
      if t < Net.unitsAt r a then 1 else 0 := by
  unfold Net.unitsAt
  rw [List.getD_eq_getElem?_getD, List.getD_eq_getElem?_getD, List.getElem?_map]
  cases r.un[a]? <;> simp

/-- for the adjacency lists an integer weight `m` is `m` consecutive unit-weight records: every out-list,
order included, is unchanged when each record is replaced by its unit-weight expansion -/
theorem weight_expand_equiv {β : Type} (n : Net β) (a i : Nat) :
    ({ n with recs := n.recs.flatMap expandRec } : Net β).out a i = n.out a i := by
  rw [out_eq_flatMap, out_eq_flatMap, List.flatMap_assoc]
  refine List.flatMap_congr fun r _ => ?_
  unfold expandRec
  dsimp only
  split
  · exact List.flatMap_singleton ..
  · rw [List.flatMap_map, pieceOut_eq_flatten n.directed r.src r.dst, ← flatMap_range_ite _ (unitsAt_le_max r a)]
    refine List.flatMap_congr fun t _ => ?_
    simp only [unitsAt_expand]
    split
    · rfl
    · exact pieceOut_zero ..

/-- undirected, a record of weight 2 and a self-loop, which appears twice in the list of its vertex -/
example :
    let n : Net Nat := build false [5, 7] [7, 7] ([2, 1] : List Nat)
    n.labels = [5, 7] ∧ n.out 0 0 = [1, 1] ∧ n.out 0 1 = [0, 0, 1, 1] ∧ n.uList = [0, 1] := by
  decide

end MTProps.C08
