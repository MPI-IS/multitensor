/-
C13 — CLI = library: every documented option takes effect, files serialise the result.
Model of the front end: `Cli.parseOpts` (multitensor.cpp:101-145), `Cli.parseAdjacencyL`
(app_utils.hpp:55-121, at character level), `Cli.cliCall` (the 3-bit dispatch over the table
regenerated from the switch), `Cli.writeAffinity`/`writeMembership`.
Claims: for every record list and every layout the grammar allows (indentation, blank/tab separators,
trailing blanks, blank-only lines, LF or CRLF, final newline or not) the reader returns exactly the
records; each option sets its field, absent options keep the documented default; the dispatch is total
and selects the instantiation the flags name; where the writers put each entry.
Tie: the binary built from the working tree, observed through its `call_start` trace event and its
files, vs the model's call record and an in-process library run.
-/
import MTProofs.Reader
import MTProps.C19
import MTProps.C18

namespace MTProps.C13
open MT MT.Cli MTProofs.Reader

def Blank (l : List Char) : Prop := ∀ c ∈ l, c = ' ' ∨ c = '\t'
/-- what may follow the last field; `'\r'` is the carriage return of a CRLF line end -/
def Trail (l : List Char) : Prop := ∀ c ∈ l, c = ' ' ∨ c = '\t' ∨ c = '\r'

/-- one line of an adjacency file -/
inductive Item where
  /-- empty or blank-only line (`ws` may hold a carriage return) -/
  | blank (ws : List Char)
  /-- a record `source target w_1 … w_L`; `seps`: one separator before each field after the first -/
  | line (src dst : Nat) (weights : List Nat) (indent : List Char) (seps : List (List Char)) (trail : List Char)

def Item.WF : Item → Prop
  | .blank ws => Trail ws
  | .line _ _ weights indent seps trail =>
    Blank indent ∧ seps.length = weights.length + 1 ∧ (∀ s ∈ seps, s ≠ [] ∧ Blank s) ∧ Trail trail

def Item.render : Item → List Char
  | .blank ws => ws
  | .line src dst weights indent seps trail =>
    indent ++ joinToks (((src :: dst :: weights).map digitsOf).zip (seps ++ [trail]))

def Item.recordOf : Item → Option (Nat × Nat × List Nat)
  | .blank _ => none
  | .line src dst weights _ _ _ => some (src, dst, weights)

theorem blank_trail {l : List Char} (h : Blank l) : Trail l := fun c hc => (h c hc).imp_right Or.inl

theorem trail_allSpace {l : List Char} (h : Trail l) : AllSpace l := by
  intro c hc; rcases h c hc with rfl | rfl | rfl <;> decide

theorem trail_no_newline {l : List Char} (h : Trail l) : ∀ c ∈ l, c ≠ '\n' := by
  intro c hc; rcases h c hc with rfl | rfl | rfl <;> decide

theorem tokens_of_record {src dst : Nat} {weights : List Nat} {indent : List Char} {seps : List (List Char)}
    {trail : List Char} (hwf : (Item.line src dst weights indent seps trail).WF) :
    tokensL (Item.line src dst weights indent seps trail).render = (src :: dst :: weights).map digitsOf := by
  obtain ⟨hind, hlen, hseps, htrail⟩ := hwf
  unfold Item.render
  rw [tokensL_space_prefix _ _ (trail_allSpace (blank_trail hind))]
  refine tokensL_joinToks_zip _ seps trail (by simp [hlen]) (fun t ht => ?_)
    (fun s hs => ⟨(hseps s hs).1, trail_allSpace (blank_trail (hseps s hs).2)⟩) (trail_allSpace htrail)
  obtain ⟨n, _, rfl⟩ := List.mem_map.mp ht
  exact ⟨digitsOf_ne_nil n, digits_noSpace n⟩

theorem adjLine_of_item (it : Item) (hwf : it.WF) :
    adjLineL (stripTrailingSpaces it.render) = it.recordOf := by
  unfold adjLineL
  rw [tokensL_strip]
  cases it with
  | blank ws => rw [show tokensL (Item.blank ws).render = [] from tokensL_allSpace ws (trail_allSpace hwf)]; rfl
  | line src dst weights indent seps trail =>
    have htw : (weights.map digitsOf).takeWhile isNatL = weights.map digitsOf :=
      List.takeWhile_eq_self_iff.mpr fun l hl => by
        obtain ⟨n, _, rfl⟩ := List.mem_map.mp hl; exact isNatL_digitsOf n
    rw [tokens_of_record hwf]
    simp only [List.map_cons, isNatL_digitsOf, Bool.and_self, ↓reduceIte, natOfL_digitsOf, Item.recordOf, htw,
      List.map_map]
    rw [List.map_congr_left (f := natOfL ∘ digitsOf) (g := id) (fun n _ => natOfL_digitsOf n), List.map_id]

theorem render_no_newline (it : Item) (hwf : it.WF) : ∀ c ∈ it.render, c ≠ '\n' := by
  cases it with
  | blank ws => exact trail_no_newline hwf
  | line src dst weights indent seps trail =>
    obtain ⟨hind, _, hseps, htrail⟩ := hwf
    intro c hc
    rcases List.mem_append.mp hc with h | h
    · exact trail_no_newline (blank_trail hind) c h
    · -- inside joinToks: a digit, a separator or the trail
      obtain ⟨p, hp, h1 | h1⟩ := mem_joinToks h
      · obtain ⟨n, _, hn⟩ := List.mem_map.mp (List.of_mem_zip hp).1
        exact ne_newline_of_not_space (digits_noSpace n c (hn ▸ h1))
      · rcases List.mem_append.mp (List.of_mem_zip hp).2 with h' | h'
        · exact trail_no_newline (blank_trail (hseps _ h').2) c h1
        · exact trail_no_newline htrail c (List.mem_singleton.mp h' ▸ h1)

/-- the reader returns exactly the records of the file, in order, for every layout of the grammar -/
theorem adjacency_roundtrip (items : List Item) (hwf : ∀ it ∈ items, it.WF) :
    parseAdjacencyL (joinLines (items.map Item.render)) =
      { starts := (items.filterMap Item.recordOf).map (·.1),
        ends := (items.filterMap Item.recordOf).map (·.2.1),
        weights := (items.filterMap Item.recordOf).flatMap (·.2.2) } := by
  have hrows : (fileLinesL (joinLines (items.map Item.render))).filterMap adjLineL = items.filterMap Item.recordOf := by
    rw [filterMap_fileLinesL adjLineL rfl]
    cases hi : items with
    | nil => rfl
    | cons it its =>
      rw [← hi, splitOnNL_joinLines _ (by rw [hi]; simp) (fun l hl => by
        obtain ⟨it', hit', rfl⟩ := List.mem_map.mp hl; exact render_no_newline it' (hwf it' hit')),
        List.filterMap_map]
      exact List.filterMap_congr fun it' hit' => adjLine_of_item it' (hwf it' hit')
  unfold parseAdjacencyL
  simp only [hrows]

theorem optNat_absent (argv : List String) (name : String) (d : Nat) (h : hasOpt argv name = false) :
    optNat argv name d = .ok d := by
  unfold optNat; simp [h, pure, Except.pure]

theorem optNat_present (argv : List String) (name : String) (d : Nat) (t : String)
    (h : hasOpt argv name = true) (hv : getOpt argv name = some t) (ht : isNatTok t = true) :
    optNat argv name d = .ok t.toNat! := by
  unfold optNat stoi; simp [h, hv, ht, pure, Except.pure]

theorem getOpt_spec (pre post : List String) (name v : String) (hpre : name ∉ pre) :
    getOpt (pre ++ name :: v :: post) name = some v := by
  unfold getOpt
  have hp : ∀ a ∈ pre, decide (a ≠ name) = true := fun a ha => decide_eq_true (fun h : a = name => hpre (h ▸ ha))
  rw [List.dropWhile_append_of_pos hp, List.dropWhile_cons_of_neg (by simp)]

/-- every documented option takes effect: an accepted command line yields the value of each option, or
its documented default -/
theorem parse_args_effect (argv : List String) (o : Opts) (h : parseOpts argv = .ok o) :
    hasOpt argv "--k" = true ∧
    stoi (getOpt argv "--k") = .ok o.k ∧
    optStr argv "--a" "adjacency.dat" = .ok o.adjacency ∧
    optStr argv "--w" "" = .ok o.affinity ∧
    optStr argv "--o" "results" = .ok o.output ∧
    optNat argv "--r" 1 = .ok o.r ∧
    optStr argv "--s" "random" = .ok o.seed ∧
    optNat argv "--maxit" 500 = .ok o.maxit ∧
    optNat argv "--y" 10 = .ok o.y ∧
    o.directed = !hasOpt argv "--undirected" ∧
    o.assortative = hasOpt argv "--assortative" := by
  unfold parseOpts at h
  split at h
  · cases h
  · rename_i hk
    split at h
    · rename_i k a w out r s maxit y h1 h2 h3 h4 h5 h6 h7 h8
      simp only [Except.ok.injEq] at h
      subst h
      exact ⟨by simpa using hk, h1, h2, h3, h4, h5, h6, h7, h8, rfl, rfl⟩
    · cases h

/-- the call the command line makes: the instantiation named by the flags, the in-membership matrix
allocated exactly for directed runs, every numeric option passed through -/
theorem dispatch_total_correct (o : Opts) (adj : String) (aff : Option String) (c : CallRecord)
    (h : cliCall o adj aff = .ok c) :
    c.inst = { directed := o.directed, assort := o.assortative, fromFile := (o.affinity != ""),
               initInner := if (o.affinity != "") then some o.assortative else none } ∧
    c.allocV = o.directed ∧ c.K = o.k ∧ c.r = o.r ∧ c.maxit = o.maxit ∧ c.nconv = o.y ∧ c.seed = o.seed ∧
    c.adj = parseAdjacency adj := by
  unfold cliCall at h
  simp only [C19.cli_lookup] at h
  by_cases h0 : (parseAdjacency adj).starts.length = 0
  · rw [if_pos h0] at h; cases h
  rw [if_neg h0] at h
  generalize cliAffinity o _ aff = x at h
  cases x with
  | error e => cases h
  | ok a => cases h; exact ⟨rfl, rfl, rfl, rfl, rfl, rfl, rfl, rfl⟩

theorem writer_layout_affinity (aff : Array Float) (K L : Nat) (maxL2 : Float) (r : Nat) :
    writeAffinity aff K L maxL2 r =
      headerLine maxL2 r ::
      (List.range L).flatMap fun a =>
        [Tok.s "a=", Tok.n a] ::
        ((List.range K).map fun k =>
          if (aff.size == Gen.writerAssortSize K L) then [Tok.f (aff.getD (Gen.writerIdxAssort K L k a) 0.0)]
          else (List.range K).map fun q => Tok.f (aff.getD (Gen.writerIdxGeneral K L k q a) 0.0))
        ++ [[]] := rfl

/-- row `k`, column `q` of block `a` is the tensor entry `(k,q,a)` in the C18 layout; assortative: one
value per row, entry `(k,a)` -/
theorem writer_entry_positions (K L k q a : Nat) :
    Gen.writerIdxGeneral K L k q a = C18.spec K K L k q a ∧ Gen.writerIdxAssort K L k a = C18.spec K 1 L k 0 a :=
  ⟨C18.writer_position_general K L k q a, C18.writer_position_assort K L k a⟩

theorem writer_layout_membership (labels : List String) (m : Tens Float) (maxL2 : Float) (r : Nat) :
    writeMembership labels m maxL2 r =
      headerLine maxL2 r ::
      (List.range m.R).map fun k =>
        Tok.s (labels.getD k "?") :: (List.range m.C).map fun q => Tok.f (m.get k q 0) := rfl

/-- an in-membership file is written exactly for directed runs: the Boolean the translator computes from
multitensor.cpp:270-273 -/
theorem v_file_iff_directed : Gen.cliVFileIffDirected = true := rfl

example :
    parseAdjacencyL " 5\t7 1 0\r\n   \r\n7  5\t2 1 \r\n".toList =
      { starts := [5, 7], ends := [7, 5], weights := [1, 0, 2, 1] } := by decide

end MTProps.C13
