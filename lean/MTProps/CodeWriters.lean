/-
The output writers as they stand in the source (MT/Generated/WriterCode.lean, translated statement by statement
from `write_affinity_file`, `write_membership_file`, `write_info_file`) are the model's writers (MT/Cli.lean), at
token level: same lines, same tokens on every line, in the same order.  Everything the properties about the
output files say of the model's writers (C13 `writer_layout_affinity`, C16) therefore holds of the translated code.
The header line of the membership and affinity files is pinned literally by the translator (it fuses the literal
`N_real=` with a number, which the token view cannot express); number formatting (`setprecision`, `operator<<` of
a double) stays with the correspondence check.
-/
import MT.Generated.WriterCode
import MT.Generated.Index
import MTProps.C18
import MTProofs.Folds

namespace MTProps.CodeWriters
open MT MT.Imp MT.Cli MT.Gen

/-- both kinds of writer loop are instances: tokens appended to the open line (`p = cur`, `I` = the finished
lines stay), and whole lines appended (`p = lines`, `I` = the open line is empty) -/
theorem foldl_emit {S β : Type} (p : S → List β) (I : S → Prop) (f : Nat → S → S) (g : Nat → List β)
    (hf : ∀ i s, I s → I (f i s) ∧ p (f i s) = p s ++ g i) (l : List Nat) (s : S) (hs : I s) :
    I (l.foldl (fun s i => f i s) s) ∧ p (l.foldl (fun s i => f i s) s) = p s ++ l.flatMap g := by
  rw [List.flatMap_eq_foldl]
  exact CodeRefine.foldl_rel (fun s' t => I s' ∧ p s' = p s ++ t)
    (fun s' t i h => ⟨(hf i s' h.1).1, by rw [(hf i s' h.1).2, h.2, List.append_assoc]⟩) l
    ⟨hs, (List.append_nil _).symm⟩

theorem lines_loop (f : Nat → WrLoc → WrLoc) (g : Nat → List (List Tok))
    (hf : ∀ i s, s.cur = [] → (f i s).cur = [] ∧ (f i s).lines = s.lines ++ g i)
    (n : Nat) (s : WrLoc) (hs : s.cur = []) :
    (forRange n f s).cur = [] ∧ (forRange n f s).lines = s.lines ++ (List.range n).flatMap g :=
  foldl_emit WrLoc.lines (·.cur = []) f g hf _ s hs

theorem cur_loop (f : Nat → WrLoc → WrLoc) (g : Nat → Tok)
    (hf : ∀ i s, (f i s).lines = s.lines ∧ (f i s).cur = s.cur ++ [g i]) (n : Nat) (s : WrLoc) :
    (forRange n f s).lines = s.lines ∧ (forRange n f s).cur = s.cur ++ (List.range n).map g := by
  rw [List.map_eq_flatMap]
  exact foldl_emit WrLoc.cur (·.lines = s.lines) f _ (fun i t ht => ⟨(hf i t).1.trans ht, (hf i t).2⟩) _ s rfl

theorem info_body (r : Nat) (maxL2 : Float) (seed : Int) (n : Nat) (iters : List Nat) (reasons : List String)
    (L2s : List Float) (i : Nat) (s : WrLoc) (hs : s.cur = []) :
    (writeInfoCode_1 r maxL2 seed n iters reasons L2s i s).cur = [] ∧
    (writeInfoCode_1 r maxL2 seed n iters reasons L2s i s).lines = s.lines ++
      [[Tok.n i, Tok.n (iters.getD i 0), Tok.s (reasons.getD i "?"), Tok.f (L2s.getD i 0.0)]] := by
  refine ⟨rfl, ?_⟩
  show s.lines ++ [s.cur ++ _ ++ _ ++ _ ++ _] = _
  rw [hs]; rfl

theorem writeInfoCode_eq (r : Nat) (maxL2 : Float) (seed : Int) (iters : List Nat) (reasons : List String)
    (L2s : List Float) :
    (writeInfoCode r maxL2 seed iters.length iters reasons L2s ⟨[], [], 0⟩).lines
      = writeInfo r maxL2 seed iters reasons L2s
    ∧ (writeInfoCode r maxL2 seed iters.length iters reasons L2s ⟨[], [], 0⟩).cur = [] := by
  have h := lines_loop _ _ (info_body r maxL2 seed iters.length iters reasons L2s) iters.length
  rw [writeInfo, List.map_eq_flatMap]
  exact ⟨(h _ rfl).2, (h _ rfl).1⟩

def affRow (aff : Array Float) (assort : Bool) (K L a k : Nat) : List Tok :=
  if assort then [Tok.f (aff.getD (Gen.writerIdxAssort K L k a) 0.0)]
  else (List.range K).map fun q => Tok.f (aff.getD (Gen.writerIdxGeneral K L k q a) 0.0)

theorem aff_row (aff : Array Float) (assort : Bool) (K L a k : Nat) (s : WrLoc) (hs : s.cur = []) :
    (writeAffinityCode_1_1 aff assort K L a k s).cur = [] ∧
    (writeAffinityCode_1_1 aff assort K L a k s).lines = s.lines ++ [affRow aff assort K L a k] := by
  refine ⟨rfl, ?_⟩
  cases assort
  · have h := cur_loop (writeAffinityCode_1_1_1 aff false K L a k)
      (fun q => Tok.f (aff.getD (Gen.writerIdxGeneral K L k q a) 0.0)) (fun _ _ => ⟨rfl, rfl⟩) K s
    show WrLoc.lines (forRange K _ s) ++ [WrLoc.cur (forRange K _ s)] = _
    rw [h.1, h.2, hs]; rfl
  · show s.lines ++ [s.cur ++ _] = _
    rw [hs]; rfl

theorem aff_block (aff : Array Float) (assort : Bool) (K L a : Nat) (s : WrLoc) (hs : s.cur = []) :
    (writeAffinityCode_1 aff assort K L a s).cur = [] ∧
    (writeAffinityCode_1 aff assort K L a s).lines = s.lines ++
      ([Tok.s "a=", Tok.n a] :: (List.range K).map (affRow aff assort K L a) ++ [[]]) := by
  refine ⟨rfl, ?_⟩
  have h := lines_loop _ _ (aff_row aff assort K L a) K
    { s with lines := s.lines ++ [s.cur ++ [Tok.s "a="] ++ [Tok.n a]], cur := [] } rfl
  show WrLoc.lines (forRange K _ _) ++ [WrLoc.cur (forRange K _ _)] = _
  rw [h.1, h.2, hs, ← List.map_eq_flatMap, List.append_assoc, List.append_assoc]; rfl

theorem writeAffinityCode_lines (aff : Array Float) (assort : Bool) (K L : Nat) :
    (writeAffinityCode aff assort K L ⟨[], [], 0⟩).lines = (List.range L).flatMap fun a =>
      [Tok.s "a=", Tok.n a] :: (List.range K).map (affRow aff assort K L a) ++ [[]] :=
  ((lines_loop _ _ (aff_block aff assort K L) L _ rfl).2).trans (List.nil_append _)

/-- the header line is pinned literally: the code's lines are the tail of `writeAffinity` -/
theorem writeAffinityCode_eq (aff : Array Float) (K L : Nat) (maxL2 : Float) (r : Nat) :
    (writeAffinityCode aff (aff.size == Gen.writerAssortSize K L) K L ⟨[], [], 0⟩).lines
      = (writeAffinity aff K L maxL2 r).tail
    ∧ writeAffinity aff K L maxL2 r = headerLine maxL2 r :: (writeAffinity aff K L maxL2 r).tail :=
  ⟨writeAffinityCode_lines aff _ K L, rfl⟩

theorem mem_row (labels : List String) (mat : Nat → Nat → Float) (R C k : Nat) (s : WrLoc) (hs : s.cur = []) :
    (writeMembershipCode_1 labels mat R C k s).cur = [] ∧
    (writeMembershipCode_1 labels mat R C k s).lines = s.lines ++
      [Tok.s (labels.getD k "?") :: (List.range C).map fun q => Tok.f (mat k q)] := by
  refine ⟨rfl, ?_⟩
  have h := cur_loop (writeMembershipCode_1_1 labels mat R C k) (fun q => Tok.f (mat k q))
    (fun _ _ => ⟨rfl, rfl⟩) C { s with cur := s.cur ++ [Tok.s (labels.getD k "?")] }
  show WrLoc.lines (forRange C _ _) ++ [WrLoc.cur (forRange C _ _)] = _
  rw [h.1, h.2, hs]; rfl

theorem writeMembershipCode_eq (labels : List String) (m : Tens Float) (maxL2 : Float) (r : Nat) :
    (writeMembershipCode labels (fun k q => m.get k q 0) m.R m.C ⟨[], [], 0⟩).lines
      = (writeMembership labels m maxL2 r).tail
    ∧ writeMembership labels m maxL2 r = headerLine maxL2 r :: (writeMembership labels m maxL2 r).tail := by
  refine ⟨?_, rfl⟩
  rw [writeMembership, List.tail_cons, List.map_eq_flatMap]
  exact ((lines_loop _ _ (mem_row labels _ m.R m.C) m.R _ rfl).2).trans (List.nil_append _)

theorem flatMap_range_get {β : Type} (n a : Nat) : ∀ (g : Nat → List β) (L j : Nat), (∀ a, (g a).length = n) →
    a < L → j < n → ((List.range L).flatMap g)[a * n + j]? = (g a)[j]? := by
  -- peel block 0 off the front: `range (L+1) = 0 :: (range L).map succ`
  induction a with
  | zero =>
    intro g L j hg ha hj
    cases L with
    | zero => exact absurd ha (Nat.not_lt_zero _)
    | succ L =>
      rw [List.range_succ_eq_map, List.flatMap_cons, Nat.zero_mul, Nat.zero_add,
        List.getElem?_append_left (by rw [hg]; exact hj)]
  | succ a ih =>
    intro g L j hg ha hj
    cases L with
    | zero => exact absurd ha (Nat.not_lt_zero _)
    | succ L =>
      rw [List.range_succ_eq_map, List.flatMap_cons, List.flatMap_map, Nat.succ_mul, Nat.add_right_comm,
        List.getElem?_append_right (by rw [hg]; exact Nat.le_add_left _ _), hg, Nat.add_sub_cancel]
      exact ih (fun i => g (i + 1)) L j (fun _ => hg _) (Nat.lt_of_succ_lt_succ ha) hj

theorem code_affinity_line (aff : Array Float) (assort : Bool) (K L a j : Nat) (ha : a < L) (hj : j < K + 2) :
    (writeAffinityCode aff assort K L ⟨[], [], 0⟩).lines[a * (K + 2) + j]?
      = ([Tok.s "a=", Tok.n a] :: (List.range K).map (affRow aff assort K L a) ++ [[]])[j]? := by
  rw [writeAffinityCode_lines]
  exact flatMap_range_get (K + 2) a _ L j (fun a => by simp) ha hj

theorem code_affinity_row (aff : Array Float) (assort : Bool) (K L a k : Nat) (ha : a < L) (hk : k < K) :
    (writeAffinityCode aff assort K L ⟨[], [], 0⟩).lines[a * (K + 2) + (1 + k)]?
      = some (affRow aff assort K L a k) := by
  rw [code_affinity_line aff assort K L a (1 + k) ha (by omega), Nat.add_comm 1 k, List.cons_append,
    List.getElem?_cons_succ, List.getElem?_append_left (by rw [List.length_map, List.length_range]; exact hk),
    List.getElem?_map, List.getElem?_range hk]
  rfl

/-- in the file written by `write_affinity_file` for a full tensor, line `a * (K + 2) + 1 + k` after the header
holds the `K` values `w(k, q, a)`, `q = 0 .. K-1`, each read where the library's container keeps entry `(k, q, a)`
(C18 `spec`) -/
theorem code_affinity_row_general (aff : Array Float) (K L a k : Nat) (ha : a < L) (hk : k < K)
    (hfull : (aff.size == Gen.writerAssortSize K L) = false) :
    (writeAffinityCode aff false K L ⟨[], [], 0⟩).lines[a * (K + 2) + (1 + k)]?
      = some ((List.range K).map fun q => Tok.f (aff.getD (C18.spec K K L k q a) 0.0)) := by
  rw [code_affinity_row aff false K L a k ha hk]
  simp only [affRow, Bool.false_eq_true, if_false, C18.writer_position_general]

/-- the same for a stored diagonal: one value per line, `w(k, a)` -/
theorem code_affinity_row_assortative (aff : Array Float) (K L a k : Nat) (ha : a < L) (hk : k < K)
    (hdiag : (aff.size == Gen.writerAssortSize K L) = true) :
    (writeAffinityCode aff true K L ⟨[], [], 0⟩).lines[a * (K + 2) + (1 + k)]?
      = some [Tok.f (aff.getD (C18.spec K 1 L k 0 a) 0.0)] := by
  rw [code_affinity_row aff true K L a k ha hk]
  simp only [affRow, if_true, C18.writer_position_assort]

theorem code_affinity_block_head (aff : Array Float) (K L a : Nat) (ha : a < L) :
    (writeAffinityCode aff (aff.size == Gen.writerAssortSize K L) K L ⟨[], [], 0⟩).lines[a * (K + 2) + 0]?
      = some [Tok.s "a=", Tok.n a] :=
  code_affinity_line aff _ K L a 0 ha (by omega)

theorem code_membership_row (labels : List String) (m : Tens Float) (k : Nat) (hk : k < m.R) :
    (writeMembershipCode labels (fun k q => m.get k q 0) m.R m.C ⟨[], [], 0⟩).lines[k]?
      = some (Tok.s (labels.getD k "?") :: (List.range m.C).map fun q => Tok.f (m.get k q 0)) := by
  rw [(writeMembershipCode_eq labels m 0.0 0).1, writeMembership, List.tail_cons, List.getElem?_map,
    List.getElem?_range hk]
  rfl

theorem code_info_rows (r : Nat) (maxL2 : Float) (seed : Int) (iters : List Nat) (reasons : List String)
    (L2s : List Float) (i : Nat) (hi : i < iters.length) :
    (writeInfoCode r maxL2 seed iters.length iters reasons L2s ⟨[], [], 0⟩).lines[3]?
      = some [Tok.s "#", Tok.s "Seed", Tok.s "=", Tok.s (toString seed)]
    ∧ (writeInfoCode r maxL2 seed iters.length iters reasons L2s ⟨[], [], 0⟩).lines[5 + i]?
      = some [Tok.n i, Tok.n (iters.getD i 0), Tok.s (reasons.getD i "?"), Tok.f (L2s.getD i 0.0)] := by
  rw [(writeInfoCode_eq r maxL2 seed iters reasons L2s).1, writeInfo]
  refine ⟨rfl, ?_⟩
  rw [List.getElem?_append_right (Nat.le_add_right 5 i), List.getElem?_map]
  show Option.map _ (List.range iters.length)[5 + i - 5]? = _
  rw [Nat.add_sub_cancel_left, List.getElem?_range hi]
  rfl

example : (writeInfoCode 2 1.5 7 2 [3, 4] ["a", "b"] [1.0, 1.5] ⟨[], [], 0⟩).lines.length = 7 := by
  have h := (writeInfoCode_eq 2 1.5 7 [3, 4] ["a", "b"] [1.0, 1.5]).1
  simp only [List.length_cons, List.length_nil] at h
  rw [h]; rfl

end MTProps.CodeWriters
