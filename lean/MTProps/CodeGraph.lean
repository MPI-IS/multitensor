/-
Code tie (network) — the `Network` constructor of graph.hpp with its helper `add_vertex`, and the two
extraction methods, regenerated from the source on every run (`MT/Generated/GraphCode.lean`: structure from the
source, meaning of each statement from the table of tools/gen_graph_code.py, which says what `std::map::find`,
`boost::add_vertex`, `boost::add_edge` and the guarded counting loop over the weight do), build the model's
`build` (out- and in-edge lists in insertion order).  So what C08 (multiplicities, supports, weight expansion),
C11 (orientation blindness), C12 (relabelling) and C03 (label order) prove about `build` is proved about the
statements of graph.hpp.
-/
import MTProofs.CodeRefineGraph

namespace MTProps.CodeGraph
open MT MT.Gen MT.CodeRefine

section
variable {β ω : Type} [DecidableEq β] [Weight ω]

/-- the hypotheses are what the validation lets through (`MTProps.CodeMain.validated_network`): as many targets as
sources, at least one layer -/
theorem code_network (directed : Bool) (starts ends : List β) (weights : List ω) (dflt : β)
    (hlen : starts.length = ends.length) (hnL : 0 < (build directed starts ends weights).nL) :
    let net := build directed starts ends weights
    let s := networkCode directed net.nL starts ends dflt (fun i a => (chunkUnits weights net.nL i).getD a 0) netInit
    (∀ a, a < net.nL → s.vlab a = net.labels) ∧
    (∀ l, s.idx_map.lookup l = if l ∈ net.labels then some (net.labels.idxOf l) else none) ∧
    (∀ a v, s.outA a v = net.out a v) ∧
    (directed = true → ∀ a v, s.innA a v = net.inn a v) ∧
    s.nedges = net.nedges ∧ s.nvertices = net.nV ∧ (directed = false → ∀ a v, s.innA a v = []) :=
  networkCode_refines directed starts ends weights dflt hlen hnL netInit
    ⟨rfl, fun _ => rfl, fun _ _ => rfl, fun _ _ => rfl, rfl⟩

/-- `extract_vertices_with_edges` and `extract_vertices_labels` on the network just built; the two lists start
empty: `std::make_shared<std::vector<size_t>>()` in main.hpp -/
theorem code_lists_and_labels (directed : Bool) (starts ends : List β) (weights : List ω) (dflt : β)
    (hlen : starts.length = ends.length) (hnL : 0 < (build directed starts ends weights).nL) :
    let net := build directed starts ends weights
    let s := networkCode directed net.nL starts ends dflt (fun i a => (chunkUnits weights net.nL i).getD a 0) netInit
    let e := extractListsCode directed net.nL ({ s with u_list := [], v_list := [] } : NetLoc β)
    e.u_list = net.uList ∧ e.v_list = net.vList ∧ (extractLabelsCode s).labels = net.labels := by
  intro net s e
  obtain ⟨h1, -, h3, h4, -, h6, -⟩ := code_network directed starts ends weights dflt hlen hnL
  obtain ⟨e1, e2⟩ := extractListsCode_refines net ({ s with u_list := [], v_list := [] } : NetLoc β) h6 h3 h4 rfl rfl
  refine ⟨e1, e2, ?_⟩
  have hlab : s.vlab 0 = net.labels := h1 0 hnL
  have hnv : s.nvertices = (s.vlab 0).length := by rw [h6, hlab, MTProofs.nV_eq_of_layer hnL]
  rw [extractLabelsCode_refines s hnv, hlab]

end
end MTProps.CodeGraph
