/-
C02 — one iteration equals the published EM update equations, in the documented order.
The model's `sweep` keeps the loops of `update_vertices` / `update_affinity` in code order (one `sumL`
per C++ accumulator).  Theorems, over ℝ: every entry of every step is the multiplicative update of
De Bacco et al. (2017) in dense form (multiplicities instead of edge loops), with the documented
guards (`Z > ε`, old value `> ε`, edge rate `> ε`) and the truncation `|x| < ε → 0`; the steps are
composed u → v (new u) → w (new u, new v); undirected: one matrix in both roles, no v-step;
assortative: only the diagonal affinities exist.
Tie: function-level correspondence of the private functions on arbitrary and reachable states.
-/
import MTProofs.Refine
import MTProofs.Steps
import MTProofs.Graph
import MT.Generated.Control

namespace MTProps.C02
open MT MTProofs Finset

variable (assort : Bool) (K : Nat) (nv : NetView) (s : State ℝ)

theorem sweep_order : sweep assort K nv s = stepW assort K nv (stepV assort K nv (stepU assort K nv s)) := rfl

def ViewWF (N : Nat) : Prop :=
  (∀ a i, ∀ j ∈ nv.out a i, j < N) ∧ (∀ a i, ∀ j ∈ nv.inn a i, j < N)

/-- the out-membership step is the published update: numerator over the out-edges of `i` (as dense
multiplicities), denominator over the vertices with in-edges, the in-memberships (the matrix itself
when undirected: the pre-update copy) held fixed -/
theorem stepU_entry (hwf : ViewWF nv s.u.R) {i k : Nat} (hi : i < s.u.R) (hk : k < K) :
    (stepU assort K nv s).u.get i k 0 =
      specVEntry assort K nv.nL s.u.R nv.uList nv.vList nv.out (wView assort false s.w)
        (fun i k => (if nv.directed then s.v else s.u).get i k 0) (fun i k => s.u.get i k 0) i k := by
  rw [stepU_u, updateVertices_get hi hk]
  exact updVEntry_eq_spec assort K nv.nL s.u.R nv.uList nv.vList nv.out _ _ _ hwf.1 i k

theorem stepU_frame : (stepU assort K nv s).v = s.v ∧ (stepU assort K nv s).w = s.w := ⟨rfl, rfl⟩

/-- the in-membership step (directed): in-edges, transposed affinity view `w(q,k,a)`, the new
out-memberships held fixed -/
theorem stepV_entry (hd : nv.directed = true) (hwf : ViewWF nv s.v.R) {j k : Nat} (hj : j < s.v.R) (hk : k < K) :
    (stepV assort K nv s).v.get j k 0 =
      specVEntry assort K nv.nL s.v.R nv.vList nv.uList nv.inn (wView assort true s.w)
        (fun i k => s.u.get i k 0) (fun i k => s.v.get i k 0) j k := by
  rw [stepV_of_directed hd, updateVertices_get hj hk]
  exact updVEntry_eq_spec assort K nv.nL s.v.R nv.vList nv.uList nv.inn _ _ _ hwf.2 j k

theorem transposed_view (W : Tens ℝ) (k l a : Nat) :
    wView false true W k l a = W.get l k a ∧ wView false false W k l a = W.get k l a ∧
    wView true true W k l a = W.get k 0 a ∧ wView true false W k l a = W.get k 0 a := ⟨rfl, rfl, rfl, rfl⟩

theorem stepV_undirected (hd : nv.directed = false) : stepV assort K nv s = s :=
  stepV_of_undirected hd

/-- the affinity step, for every entry that exists — all `(k,q,a)` in the general model, the diagonal
`(k,k,a)` in the assortative one, whose tensor is `K×1×L` — read through the accessor -/
theorem stepW_entry (hwf : ViewWF nv s.u.R) {k q a : Nat} (hk : k < K) (hq : q < K) (ha : a < nv.nL)
    (hdiag : assort = true → k = q) :
    wView assort false (stepW assort K nv s).w k q a =
      specWEntry assort K s.u.R nv.uList nv.vList nv.out (fun i k => s.u.get i k 0)
        (fun i k => (if nv.directed then s.v else s.u).get i k 0) (wView assort false s.w) k q a := by
  rw [stepW_w, updateAffinity_view hk hq ha hdiag]
  exact updWEntry_eq_spec assort K s.u.R nv.uList nv.vList nv.out _ _ _ hwf.1 k q a

theorem stepW_frame : (stepW assort K nv s).u = s.u ∧ (stepW assort K nv s).v = s.v := ⟨rfl, rfl⟩

theorem snapped_below_eps (x : ℝ) (h : |x| < ε) : snapR x = 0 := by
  unfold snapR; rw [if_pos h]

theorem not_snapped (x : ℝ) (h : ε ≤ |x|) : snapR x = x := by
  unfold snapR; rw [if_neg (not_lt.mpr h)]

theorem small_membership_frozen (L N : Nat) (numList denList : List Nat) (nbr : Nat → Nat → List Nat)
    (wf : Nat → Nat → Nat → ℝ) (Y X : Nat → Nat → ℝ) (i k : Nat) (h : X i k ≤ ε) :
    specVEntry assort K L N numList denList nbr wf Y X i k = X i k := by
  unfold specVEntry
  rw [if_neg (by intro hc; exact absurd hc.2.2 (not_lt.mpr h))]

theorem zero_membership_stays_zero (L N : Nat) (numList denList : List Nat) (nbr : Nat → Nat → List Nat)
    (wf : Nat → Nat → Nat → ℝ) (Y X : Nat → Nat → ℝ) (i k : Nat) (h : X i k = 0) :
    specVEntry assort K L N numList denList nbr wf Y X i k = 0 :=
  (small_membership_frozen assort K L N numList denList nbr wf Y X i k (h ▸ eps_pos.le)).trans h

theorem zero_affinity_stays_zero (N : Nat) (uList vList : List Nat) (out : Nat → Nat → List Nat)
    (u v : Nat → Nat → ℝ) (w : Nat → Nat → Nat → ℝ) (k q a : Nat) (h : w k q a = 0) :
    specWEntry assort K N uList vList out u v w k q a = 0 := by
  unfold specWEntry
  rw [if_neg (by rw [h]; intro hc; exact absurd hc.2 (not_lt.mpr (le_of_lt eps_pos)))]
  exact h

theorem other_rows_untouched (L N : Nat) (numList denList : List Nat) (nbr : Nat → Nat → List Nat)
    (wf : Nat → Nat → Nat → ℝ) (Y X : Nat → Nat → ℝ) (i k : Nat) (h : i ∉ numList) :
    specVEntry assort K L N numList denList nbr wf Y X i k = X i k := by
  unfold specVEntry
  rw [if_neg (by intro hc; exact h hc.2.1)]

theorem built_view_wf {β ω : Type} [DecidableEq β] [Weight ω] (directed : Bool) (starts ends : List β)
    (weights : List ω) :
    ViewWF (build directed starts ends weights).view (build directed starts ends weights).labels.length :=
  have h := build_recs_lt directed starts ends weights
  ⟨view_out_lt h, view_inn_lt h⟩

/-! ### the text of the solver (regenerated from solver.hpp on every run) is what the model encodes -/

/-- `loop` calls the out-membership update, the in-membership update (assortative: same affinity; general:
transposed view `wT`), then the affinity update, with these argument lists -/
theorem loop_steps_documented :
    Gen.loopSteps = [("out_edges_target_vertices", "u_list,v_list,A,w,v,u"),
                     ("in_edges_source_vertices", "v_list,u_list,A,w,u,v"),
                     ("in_edges_source_vertices", "v_list,u_list,A,wT,u,v"),
                     ("affinity", "u_list,v_list,A,u,v,w")] := rfl

/-- `update_vertices`: `Z > ε`, edge rate `> ε`, old value `> ε`, `|new| < ε → 0`, and no other
comparison against `EPS_PRECISION` -/
theorem vertex_guards_documented :
    Gen.vertexGuards = ["Z>EPS_PRECISION", "Zij_a>EPS_PRECISION", "mat_to_update_old(i,k)>EPS_PRECISION",
                        "std::abs(mat_to_update(i,k))<EPS_PRECISION"] := rfl

/-- `update_affinity` likewise, in its assortative and its general branch -/
theorem affinity_guards_documented :
    Gen.affinityGuards = ["Z_kq>EPS_PRECISION", "Zij_a>EPS_PRECISION", "std::abs(w(k,a))<EPS_PRECISION",
                          "std::abs(w(k,q,a))<EPS_PRECISION", "w_old(k,a)>EPS_PRECISION",
                          "w_old(k,q,a)>EPS_PRECISION"] := rfl

example : snapR (1 / 2000000) = 0 ∧ snapR (1 / 2) = 1 / 2 := by
  constructor
  · apply snapped_below_eps; rw [eps_value, abs_of_pos (by norm_num)]; norm_num
  · apply not_snapped; rw [eps_value, abs_of_pos (by norm_num)]; norm_num

end MTProps.C02
