/-
The adjacency reader of the command line (`read_adjacency_data`, app_utils.hpp) as it stands in the source (the
initial-affinity reader: MTProps/CodeReaderAff.lean).  It is stream-level code (getline, operator>>); its meaning is
the front-end model's `parseAdjacency` (MT/Cli.lean), about which C13 proves the grammar round trip; the tie is the
correspondence check, which runs both on the same bytes (well-formed layouts, 16 kinds of mutations, 64-bit labels).  The text is pinned here so that an edit of the
reader is a broken obligation: the check then searches the byte streams for a file the two read differently.
-/
import MT.Generated.UtilsCode

namespace MTProps.CodeReaders
open MT

theorem read_adjacency_documented : Gen.readAdjacencyText = "assert(edges_start.size()==0);assert(edges_end.size()==0);assert(edges_weight.size()==0);std::ifstreamin(filename.string());if(in.fail()){throwstd::runtime_error(std::string(\"Inread_adjacency_data,failedtoopen\")+filename.string());}std::cout<<\"Readingadjacencyfile\"<<filename<<std::endl;std::stringline;while(!in.eof()){std::getline(in,line);if(line.size()==0){continue;}line.erase(line.find_last_not_of(\"\")+1);std::vector<weight_t>current_weights;std::istringstreamis(line);size_tcurrent_edge_in,current_edge_out;is>>current_edge_in>>current_edge_out;if(is.fail()){continue;}weight_tvalue;while(is>>value){current_weights.push_back(value);}edges_start.push_back(current_edge_in);edges_end.push_back(current_edge_out);edges_weight.insert(std::end(edges_weight),std::begin(current_weights),std::end(current_weights));}in.close();" := rfl

end MTProps.CodeReaders
