/-
C11 — undirected mode: orientation-blind, single membership, symmetric affinity.
An undirected `add_edge(a,b)` appends `b` to the list of `a` and `a` to the list of `b`; the two
appends commute, so the orientation in which a record is written is invisible once the vertex
indices agree.  Theorem: reversing any subset of records with the order of first appearance
unchanged gives the *same* view of the network (every adjacency list identical, element for
element), hence the same result for every scalar type — `Float` included, i.e. bit-identical.
Second half, over ℝ: an undirected general sweep keeps the affinity of every layer symmetric, so from the
random start it is symmetric after every sweep and at the end of a realization.
Tie: `net` correspondence on reversed records, paired real runs compared bitwise.
-/
import MTProofs.Graph
import MTProofs.Select
import MTProps.C02
import MTProps.C17
import MTProofs.Invariants

namespace MTProps.C11
open MT MTProofs

variable {β ω : Type} [DecidableEq β] [Weight ω]

def RevRel (p p' : β × β) : Prop := p' = p ∨ p' = (p.2, p.1)

/-- reversing any subset of records, first-appearance order of the vertices unchanged (`hlab`), leaves
labels, adjacency lists (in iteration order), source/target lists — everything the solver sees —
identical -/
theorem undirected_reverse_invariant (starts ends starts' ends' : List β) (weights : List ω)
    (hrel : List.Forall₂ RevRel (starts.zip ends) (starts'.zip ends'))
    (hlen : starts'.length = starts.length)
    (hlab : firstApp (interleave starts' ends') = firstApp (interleave starts ends)) :
    (build false starts' ends' weights).labels = (build false starts ends weights).labels ∧
    (build false starts' ends' weights).view = (build false starts ends weights).view := by
  refine ⟨hlab, ?_⟩
  refine view_congr rfl ?_ ?_ ?_ nofun
  · simp only [build, hlen]
  · simp only [Net.nV, build, hlen, hlab]
    rfl
  · funext a i
    rw [out_eq_flatMap, out_eq_flatMap]
    unfold build
    simp only [hlen, hlab, List.flatMap_map]
    refine (flatMap_eq_of_forall₂ (forall₂_zipIdx hrel 0) _ _ ?_).symm
    -- a record is kept or reversed; reversed, its piece of an undirected list is the same
    rintro ⟨⟨x, y⟩, t⟩ ⟨_, _⟩ ⟨rfl | rfl, rfl⟩
    · rfl
    · exact (pieceOut_swap _ _ _ i).symm

/-- the inductive form of "order of first appearance unchanged": a record may be reversed when it
is a self-loop or both its endpoints were seen before -/
theorem firstApp_swap_seen (pre : List β) (x y : β) (rest : List β)
    (h : x = y ∨ (x ∈ pre ∧ y ∈ pre)) :
    firstApp (pre ++ y :: x :: rest) = firstApp (pre ++ x :: y :: rest) := by
  rcases h with rfl | ⟨hx, hy⟩
  · rfl
  · rw [firstApp_append_cons_of_mem hy, firstApp_append_cons_of_mem hx, firstApp_append_cons_of_mem hx,
      firstApp_append_cons_of_mem hy]

section
variable {α : Type} [Add α] [Sub α] [Mul α] [Div α] [LT α] [DecidableLT α] [MTExtra α]

theorem v_untouched (assort : Bool) (ik : InitKind) (K N : Nat) (nv : NetView) (hdir : nv.directed = false)
    (r maxIt nConv : Nat) (evalL : Nat → Nat → State α → α) (userW : Tens α) (d : Nat → α)
    (prior : State α) :
    (runAll assort ik K N nv r maxIt nConv evalL userW d prior).best.v = prior.v :=
  runAll_v_undirected assort ik K N nv maxIt nConv evalL userW d hdir prior r

theorem sweep_ignores_v (assort : Bool) (K : Nat) (nv : NetView) (hdir : nv.directed = false)
    (s : State α) (v' : Tens α) :
    sweep assort K nv { s with v := v' } = { sweep assort K nv s with v := v' } :=
  sweep_with_v assort K nv s hdir v'

end

/-- the whole call is orientation-blind: `factorize` on the reversed records returns exactly the same
value — labels, factors, report — for every scalar type (`Float`: bit-identical) -/
theorem undirected_reverse_factorize {α : Type} [Add α] [Sub α] [Mul α] [Div α] [LT α] [DecidableLT α] [MTExtra α]
    (inp : Input β ω α) (starts' ends' : List β) (d : Nat → α)
    (hdir : inp.directed = false)
    (hrel : List.Forall₂ RevRel (inp.starts.zip inp.ends) (starts'.zip ends'))
    (hlen : starts'.length = inp.starts.length) (hlen' : ends'.length = inp.ends.length)
    (heq : inp.starts.length = inp.ends.length)
    (hlab : firstApp (interleave starts' ends') = firstApp (interleave inp.starts inp.ends)) :
    factorize { inp with starts := starts', ends := ends' } d = factorize inp d := by
  obtain ⟨h1, h2⟩ := undirected_reverse_invariant inp.starts inp.ends starts' ends' inp.weights hrel hlen hlab
  unfold factorize factorizeWith
  have hs : (Input.shapes { inp with starts := starts', ends := ends' }) = inp.shapes := by
    unfold Input.shapes
    simp only [hlen, hlen', numVertices_eq starts' ends' (by omega), numVertices_eq inp.starts inp.ends heq, hlab]
  simp only [hs]
  cases hv : validate inp.shapes with
  | error e => rfl
  | ok p =>
    simp only [bind, Except.bind, hdir]
    rw [h2, h1]

section symmetric
open Finset

def SymW (K L : Nat) (w : Nat → Nat → Nat → ℝ) : Prop :=
  ∀ k q a, k < K → q < K → a < L → w k q a = w q k a

theorem rate_symm (K L : Nat) (w : Nat → Nat → Nat → ℝ) (hw : SymW K L w)
    (u : Nat → Nat → ℝ) (i j : Nat) {a : Nat} (ha : a < L) :
    rate false K w u u i j a = rate false K w u u j i a :=
  rate_swap false K w w a (fun k l hk hl _ => hw k l a hk hl ha) u u j i

/-- the affinity step preserves symmetry in undirected mode (single membership matrix, one shared
vertex list, symmetric multiplicities) -/
theorem specWEntry_symm (K L N : Nat) (U : List Nat) (out : Nat → Nat → List Nat)
    (hA : ∀ a i j, (out a i).count j = (out a j).count i)
    (u : Nat → Nat → ℝ) (w : Nat → Nat → Nat → ℝ) (hw : SymW K L w) {k q a : Nat}
    (hk : k < K) (hq : q < K) (ha : a < L) :
    specWEntry false K N U U out u u w k q a = specWEntry false K N U U out u u w q k a := by
  have hZ : specWZ U U u u k q = specWZ U U u u q k := by unfold specWZ; ring
  have hacc : specWAcc false K N out u u w k q a = specWAcc false K N out u u w q k a := by
    unfold specWAcc
    simp only [mul_sum]
    rw [sum_comm]
    apply sum_congr rfl; intro j _
    apply sum_congr rfl; intro i _
    rw [hA a i j, rate_symm K L w hw u i j ha]
    split <;> ring
  unfold specWEntry
  rw [hZ, hacc, hw k q a hk hq ha]

def StateSym (K L : Nat) (s : State ℝ) : Prop := SymW K L (fun k q a => s.w.get k q a)

theorem w_symmetric_invariant (K : Nat) (nv : NetView) (s : State ℝ) (hd : nv.directed = false)
    (hwf : MTProps.C02.ViewWF nv s.u.R) (hA : ∀ a i j, (nv.out a i).count j = (nv.out a j).count i)
    (hlist : nv.vList = nv.uList) (hsym : StateSym K nv.nL s) :
    StateSym K nv.nL (sweep false K nv s) := by
  intro k q a hk hq ha
  show (sweep false K nv s).w.get k q a = (sweep false K nv s).w.get q k a
  unfold sweep
  rw [stepV_of_undirected hd]
  have h1 := MTProps.C02.stepW_entry false K nv (stepU false K nv s) hwf hk hq ha nofun
  have h2 := MTProps.C02.stepW_entry false K nv (stepU false K nv s) hwf hq hk ha nofun
  rw [wView_general, if_neg Bool.false_ne_true] at h1 h2
  rw [h1, h2]
  simp only [hd, Bool.false_eq_true, ↓reduceIte, hlist]
  exact specWEntry_symm K nv.nL _ nv.uList nv.out hA _ _ (fun k' q' a' => hsym k' q' a') hk hq ha

theorem w_symmetric_iterate (K : Nat) (nv : NetView) (s : State ℝ) (hd : nv.directed = false)
    (hwf : MTProps.C02.ViewWF nv s.u.R) (hA : ∀ a i j, (nv.out a i).count j = (nv.out a j).count i)
    (hlist : nv.vList = nv.uList) (hsym : StateSym K nv.nL s) (n : Nat) :
    StateSym K nv.nL ((sweep false K nv)^[n] s) :=
  (iterate_sweep_induction false K nv _ (fun s hR => w_symmetric_invariant K nv s hd (hR ▸ hwf) hA hlist)
    hsym n).1

/-- C11, last clause, over ℝ: from the random start of an undirected general realization the
affinity of every layer is symmetric after any number of sweeps, for every draw stream -/
theorem random_start_affinity_symmetric (K N : Nat) (nv : NetView) (hd : nv.directed = false)
    (hwf : MTProps.C02.ViewWF nv N) (hA : ∀ a i j, (nv.out a i).count j = (nv.out a j).count i)
    (hlist : nv.vList = nv.uList) (userW : Tens ℝ) (d : Nat → ℝ) (n : Nat) :
    StateSym K nv.nL ((sweep false K nv)^[n] (realizationStart false .random K N nv userW d).1) := by
  apply w_symmetric_iterate K nv _ hd hwf hA hlist
  intro k q a hk hq ha
  exact MTProps.C17.random_affinity_symmetric K nv.nL d hk hq ha

theorem built_undirected_view {β ω : Type} [DecidableEq β] [Weight ω] (starts ends : List β) (weights : List ω) :
    let n := build false starts ends weights
    n.view.directed = false ∧ MTProps.C02.ViewWF n.view n.labels.length ∧
    (∀ a i j, (n.view.out a i).count j = (n.view.out a j).count i) ∧ n.view.vList = n.view.uList :=
  ⟨rfl, MTProps.C02.built_view_wf false starts ends weights,
    fun a i j => by rw [build_view_out]; exact out_count_symm _ rfl a i j,
    vList_of_undirected (build false starts ends weights) rfl⟩

/-- the same for every edge list, with the hypotheses on the view discharged -/
theorem built_random_start_affinity_symmetric {β ω : Type} [DecidableEq β] [Weight ω]
    (starts ends : List β) (weights : List ω) (K : Nat) (userW : Tens ℝ) (d : Nat → ℝ) (n : Nat) :
    let net := build false starts ends weights
    StateSym K net.view.nL ((sweep false K net.view)^[n]
      (realizationStart false .random K net.labels.length net.view userW d).1) := by
  intro net
  obtain ⟨h1, h2, h3, h4⟩ := built_undirected_view starts ends weights
  exact random_start_affinity_symmetric K net.labels.length net.view h1 h2 h3 h4 userW d n

theorem realization_final_affinity_symmetric (K N : Nat) (nv : NetView) (hd : nv.directed = false)
    (hwf : MTProps.C02.ViewWF nv N) (hA : ∀ a i j, (nv.out a i).count j = (nv.out a j).count i)
    (hlist : nv.vList = nv.uList) (maxIt nConv : Nat) (hM : 1 ≤ maxIt) (hC : 1 ≤ nConv)
    (evalL : Nat → State ℝ → ℝ) (userW : Tens ℝ) (d : Nat → ℝ) :
    StateSym K nv.nL (runRealization false .random K N nv maxIt nConv evalL userW d).final :=
  (final_induction false K nv _ .random N maxIt nConv evalL userW d
    (fun s hR => w_symmetric_invariant K nv s hd (hR ▸ hwf) hA hlist)
    fun _ _ _ hk hq ha => MTProps.C17.random_affinity_symmetric K nv.nL d hk hq ha).1

end symmetric

/-- `(7,5)` reversed after both endpoints were seen -/
example :
    (build false [5, 7] [7, 5] ([1, 2] : List Nat)).out 0 0 =
      (build false [5, 5] [7, 7] ([1, 2] : List Nat)).out 0 0 := by decide

end MTProps.C11
