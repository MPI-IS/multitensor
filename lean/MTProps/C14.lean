/-
C14 — initial-affinity file semantics.
`Gen.readerIdx` is the index expression of `read_affinity_data`, regenerated from app_utils.cpp on
every run; `Cli.placeRows`/`Cli.checkRows` model the reader's two passes (tie: `readaff`
correspondence in-process under ASan, all K ≤ 5, L ≤ 4, both layouts, plus mismatching shapes).
Claims: for every K ≥ 1, L, both layouts, the value `d_g` of the line of layer `a` lands exactly on
the diagonal entry `(g,g,a)` (resp. `(g,a)`), every other entry keeps the pre-set zero, every write is
in range, and a file whose columns, layers or layer ids disagree with `K` and the vector is rejected;
every realization starts again from the file values (plus noise from its own stream segment); the
Python front end places the file values where the C++ reader does.  The noise clause is C17's
`user_affinity_noise`.
-/
import MT.Cli
import MTProofs.Checks
import MTProps.C18
import MTProps.C17
import Mathlib.Data.List.Nodup

namespace MTProps.C14
open MT MT.Cli MTProps.C18

/-- the reader's position for `(g, layer)` is the C18 position of entry `(g, g, layer)` of a `K×K×L`
tensor, resp. of `(g, 0, layer)` of the `K×1×L` diagonal tensor -/
theorem reader_index_eq (assort : Bool) (K L g layer : Nat) :
    Gen.readerIdx assort K g layer = spec K (if assort then 1 else K) L g (if assort then 0 else g) layer := by
  cases assort <;> simp only [Gen.readerIdx, spec, Bool.false_eq_true, ↓reduceIte] <;> ring

theorem reader_col_lt (assort : Bool) {K g : Nat} (hg : g < K) :
    (if assort then 0 else g) < (if assort then 1 else K) := by
  cases assort
  · exact hg
  · exact Nat.one_pos

def vecSize (assort : Bool) (K L : Nat) : Nat := perLayer assort K * L

theorem vecSize_eq (assort : Bool) (K L : Nat) : vecSize assort K L = K * (if assort then 1 else K) * L := by
  cases assort <;> simp [vecSize, perLayer]

/-- `w[index] = value` of app_utils.cpp is in bounds for every line that passed the checks -/
theorem reader_writes_lt (assort : Bool) {K L g layer : Nat} (hg : g < K) (hl : layer < L) :
    Gen.readerIdx assort K g layer < vecSize assort K L := by
  rw [reader_index_eq assort K L, vecSize_eq]
  exact index_lt_size hg (reader_col_lt assort hg) hl

theorem reader_index_injective (assort : Bool) {K g layer g' layer' : Nat} (hg : g < K) (hg' : g' < K)
    (h : Gen.readerIdx assort K g layer = Gen.readerIdx assort K g' layer') : g = g' ∧ layer = layer' := by
  rw [reader_index_eq assort K 0, reader_index_eq assort K 0] at h
  have := index_injective hg (reader_col_lt assort hg) hg' (reader_col_lt assort hg') h
  exact ⟨congrArg (·.1) this, congrArg (·.2.2) this⟩

section place
variable {α : Type}

def writeAll (w : Array α) (ws : List (Nat × α)) : Array α := ws.foldl (fun w q => w.setIfInBounds q.1 q.2) w

theorem writeAll_cons (w : Array α) (q : Nat × α) (ws : List (Nat × α)) :
    writeAll w (q :: ws) = writeAll (w.setIfInBounds q.1 q.2) ws := rfl

theorem writeAll_size (w : Array α) (ws : List (Nat × α)) : (writeAll w ws).size = w.size := by
  induction ws generalizing w with
  | nil => rfl
  | cons q ws ih => rw [writeAll_cons, ih, Array.size_setIfInBounds]

theorem writeAll_getD_of_not_mem {w : Array α} {ws : List (Nat × α)} {p : Nat} (z : α)
    (h : ∀ q ∈ ws, q.1 ≠ p) : (writeAll w ws).getD p z = w.getD p z := by
  induction ws generalizing w with
  | nil => rfl
  | cons q ws ih =>
    rw [writeAll_cons, ih (fun q' h' => h q' (List.mem_cons_of_mem _ h')), Array.getD_eq_getD_getElem?,
      Array.getElem?_setIfInBounds_ne (h q List.mem_cons_self), Array.getD_eq_getD_getElem?]

theorem writeAll_getD_of_forall {w : Array α} {ws : List (Nat × α)} {v : α} {p : Nat} (z : α) (hp : p < w.size)
    (hex : ∃ q ∈ ws, q.1 = p) (hall : ∀ q ∈ ws, q.1 = p → q.2 = v) : (writeAll w ws).getD p z = v := by
  induction ws generalizing w with
  | nil => obtain ⟨q, hq, _⟩ := hex; cases hq
  | cons q ws ih =>
    rw [writeAll_cons]
    have hall' : ∀ q' ∈ ws, q'.1 = p → q'.2 = v := fun q' h' => hall q' (List.mem_cons_of_mem _ h')
    by_cases hw : ∃ q' ∈ ws, q'.1 = p
    · exact ih (by rw [Array.size_setIfInBounds]; exact hp) hw hall'
    · obtain ⟨q', hq', hp'⟩ := hex
      have hq : q.1 = p := by
        rcases List.mem_cons.mp hq' with rfl | h'
        · exact hp'
        · exact absurd ⟨q', h', hp'⟩ hw
      rw [writeAll_getD_of_not_mem z (fun q' h' hc => hw ⟨q', h', hc⟩), Array.getD_eq_getD_getElem?, ← hq,
        Array.getElem?_setIfInBounds_self_of_lt (hq ▸ hp), Option.getD_some]
      exact hall q List.mem_cons_self hq

def rowWrites (assort : Bool) (K : Nat) (r : Nat × List α) : List (Nat × α) :=
  r.2.zipIdx.map fun p => (Gen.readerIdx assort K p.2 r.1, p.1)

theorem placeRows_eq_writeAll (assort : Bool) (K : Nat) (w0 : Array α) (rows : List (Nat × List α)) :
    placeRows assort K w0 rows = writeAll w0 (rows.flatMap (rowWrites assort K)) := by
  simp only [placeRows, placeRow, writeAll, rowWrites, List.foldl_flatMap, List.foldl_map]

theorem mem_writes {assort : Bool} {K : Nat} {rows : List (Nat × List α)} {q : Nat × α} :
    q ∈ rows.flatMap (rowWrites assort K) ↔
      ∃ r ∈ rows, ∃ g, r.2[g]? = some q.2 ∧ q.1 = Gen.readerIdx assort K g r.1 := by
  simp only [List.mem_flatMap, rowWrites, List.mem_map, List.mem_zipIdx_iff_getElem?]
  constructor
  · rintro ⟨r, hr, x, hx, rfl⟩; exact ⟨r, hr, x.2, hx, rfl⟩
  · rintro ⟨r, hr, g, hv, h1⟩; exact ⟨r, hr, (q.2, g), hv, Prod.ext h1.symm rfl⟩

theorem placeRows_size (assort : Bool) (K : Nat) (w0 : Array α) (rows : List (Nat × List α)) :
    (placeRows assort K w0 rows).size = w0.size := by
  rw [placeRows_eq_writeAll, writeAll_size]

/-- entries that no line addresses keep the pre-set value (zero: "other entries are the noise alone") -/
theorem placeRows_get_other (assort : Bool) (K : Nat) (w0 : Array α) (rows : List (Nat × List α)) (z : α) (p : Nat)
    (h : ∀ r ∈ rows, ∀ g, g < r.2.length → Gen.readerIdx assort K g r.1 ≠ p) :
    (placeRows assort K w0 rows).getD p z = w0.getD p z := by
  rw [placeRows_eq_writeAll]
  refine writeAll_getD_of_not_mem z (fun q hq => ?_)
  obtain ⟨r, hr, g, hv, hq1⟩ := mem_writes.mp hq
  exact hq1 ▸ h r hr g (List.getElem?_eq_some_iff.mp hv).1

/-- with one line per layer (distinct layer ids below `L`, `K` values each), the value `d_g` of the line of
layer `a` is the entry at the diagonal position of `(g, a)` -/
theorem affinity_file_semantics (assort : Bool) (K L : Nat) (w0 : Array α) (rows : List (Nat × List α)) (z : α)
    (hsize : w0.size = vecSize assort K L)
    (hcols : ∀ r ∈ rows, r.2.length = K) (hlayer : ∀ r ∈ rows, r.1 < L)
    (hnodup : (rows.map (·.1)).Nodup) :
    ∀ r ∈ rows, ∀ g, g < K →
      (placeRows assort K w0 rows).getD (Gen.readerIdx assort K g r.1) z = r.2.getD g z := by
  intro r hr g hg
  have hgr : g < r.2.length := hcols r hr ▸ hg
  have hv : r.2[g]? = some (r.2.getD g z) := by
    rw [List.getD_eq_getElem?_getD, List.getElem?_eq_getElem hgr]; rfl
  rw [placeRows_eq_writeAll]
  refine writeAll_getD_of_forall z (hsize ▸ reader_writes_lt assort hg (hlayer r hr))
    ⟨(_, _), mem_writes.mpr ⟨r, hr, g, hv, rfl⟩, rfl⟩ (fun q hq hq1 => ?_)
  -- any write to that position is value `g` of a line with the same layer id: the line itself
  obtain ⟨r', hr', g', hv', hq1'⟩ := mem_writes.mp hq
  have hg' : g' < K := hcols r' hr' ▸ (List.getElem?_eq_some_iff.mp hv').1
  obtain ⟨rfl, hl⟩ := reader_index_injective assort hg' hg (hq1' ▸ hq1)
  obtain rfl : r' = r := List.inj_on_of_nodup_map hnodup hr' hr hl
  exact Option.some.inj (hv'.symm.trans hv)

end place

theorem checkRows_eq_ok_iff (assort : Bool) (K size : Nat) (rows : List (String × List Float)) (L : Nat) :
    checkRows assort K size rows = .ok L ↔
      (K ≠ 0 ∧ size % perLayer assort K = 0) ∧ (∀ r ∈ rows, r.2.length = K) ∧
      rows.length = size / perLayer assort K ∧
      (∀ r ∈ rows, isNatTok r.1 = true ∧ r.1.toNat! < size / perLayer assort K) ∧
      size / perLayer assort K = L := by
  simp only [checkRows, MTProofs.ite_error_eq_ok_iff, Except.ok.injEq, List.any_eq_true, Bool.or_eq_true, decide_eq_true_eq,
    not_exists, not_and, not_or, not_not, Bool.not_eq_true', ne_eq, ge_iff_le, not_le, Bool.not_eq_false]

theorem rejects_wrong_columns (assort : Bool) (K size : Nat) (rows : List (String × List Float))
    (h : ∃ r ∈ rows, r.2.length ≠ K) : ∃ e, checkRows assort K size rows = .error e := by
  obtain ⟨r, hr, hne⟩ := h
  exact MTProofs.rejected_of_not_ok fun L hL => hne (((checkRows_eq_ok_iff ..).mp hL).2.1 r hr)

/-- `size` comes from K and the adjacency data: a file with another number of layer lines is rejected -/
theorem rejects_wrong_layers (assort : Bool) (K size : Nat) (rows : List (String × List Float))
    (h : rows.length ≠ size / perLayer assort K) : ∃ e, checkRows assort K size rows = .error e :=
  MTProofs.rejected_of_not_ok fun _ hL => h ((checkRows_eq_ok_iff ..).mp hL).2.2.1

theorem rejects_bad_layer_id (assort : Bool) (K size : Nat) (rows : List (String × List Float))
    (h : ∃ r ∈ rows, isNatTok r.1 = false ∨ r.1.toNat! ≥ size / perLayer assort K) :
    ∃ e, checkRows assort K size rows = .error e := by
  obtain ⟨r, hr, hbad⟩ := h
  refine MTProofs.rejected_of_not_ok fun L hL => ?_
  have := ((checkRows_eq_ok_iff ..).mp hL).2.2.2.1 r hr
  rcases hbad with hb | hb
  · rw [this.1] at hb; cases hb
  · exact absurd this.2 (Nat.not_lt.mpr hb)

theorem accepted_shape (assort : Bool) (K size : Nat) (rows : List (String × List Float)) (L : Nat)
    (h : checkRows assort K size rows = .ok L) :
    K ≠ 0 ∧ L = size / perLayer assort K ∧ rows.length = L ∧
    (∀ r ∈ rows, r.2.length = K) ∧ (∀ r ∈ rows, isNatTok r.1 = true ∧ r.1.toNat! < L) := by
  obtain ⟨h1, h2, h3, h4, rfl⟩ := (checkRows_eq_ok_iff ..).mp h
  exact ⟨h1.1, rfl, h3, h2, h4⟩

/-- every realization restarts from the file values: the affinity start of realization `i` is
the user tensor plus noise from the `i`-th stream segment, whatever earlier realizations produced -/
theorem restart_from_file_values {α : Type} [Add α] [Sub α] [Mul α] [Div α] [LT α] [DecidableLT α] [MTExtra α]
    (assort : Bool) (K N : Nat) (nv : NetView) (maxIt nConv : Nat) (evalL : Nat → Nat → State α → α)
    (userW : Tens α) (d : Nat → α) (i : Nat) :
    (MTProofs.outcomeOf assort .fromInitial K N nv maxIt nConv evalL userW d i).start.w =
      (initAffFromInitial assort userW
        (fun t => d (i * C17.drawsPerRealization assort .fromInitial K nv userW + t))).1 := by
  rw [C17.realization_start_is_segment]
  rfl

/-- the Python front end puts the value `d_g` of the `a`-th row of the file where the C++ reader puts that
of layer `a`: both front ends hand the library the same vector whenever the file lists its layers in order -/
theorem pyx_start_agrees_with_reader (assort : Bool) (K a g : Nat) :
    Gen.pyxInitPos assort K a g = Gen.readerIdx assort K g a := by
  unfold Gen.pyxInitPos Gen.readerIdx
  cases assort
  · simp only [Bool.false_eq_true, ↓reduceIte]; ring
  · simp only [↓reduceIte]; ring

example : (List.range 2).map (fun a => (List.range 3).map (fun g => Gen.readerIdx false 3 g a))
    = [[0, 4, 8], [9, 13, 17]] := rfl
example : placeRows false 2 (Array.replicate 8 0) [(1, [7, 9]), (0, [3, 5])] = #[3, 0, 0, 5, 7, 0, 0, 9] := rfl

end MTProps.C14
