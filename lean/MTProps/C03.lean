/-
C03 — results are well-formed: shape, labels, non-negative, zero rows.  (Finiteness is a
floating-point fact: the model at ℝ has no NaN/∞; it is monitored on the implementation — partial.)
Invariant `WFState` (shapes N×K, N×K, K×K×L | K×1×L; every value ≥ 0; rows of vertices without
out- or in-edges all zero) holds at every realization start (draws in [0,1), non-negative user affinity),
is preserved by every sweep, hence holds for the final state of every realization and for what is
returned.  Labels: one row per distinct label in first-appearance order (C08).
Tie: `run` correspondence + well-formedness monitor on what the implementation returns.
-/
import MTProofs.Invariants
import MTProofs.Control
import MTProofs.Select
import MTProps.C05
import MTProps.C17
import MTProps.C04

namespace MTProps.C03
open MT MTProofs Finset MTProps.C02

variable (assort : Bool) (K N : Nat) (nv : NetView)

/-- every draw lies in `[0,1)` (the range of `std::uniform_real_distribution<>`, utils.hpp:101) -/
def StreamOK (d : Nat → ℝ) : Prop := ∀ t, 0 ≤ d t ∧ d t < 1

structure UserWOK (userW : Tens ℝ) : Prop where
  wR : userW.R = K
  wC : userW.C = if assort then 1 else K
  wT : userW.T = nv.nL
  nonneg : Tens.AllNonneg userW

theorem initRows_allNonneg (elems : List Nat) (d : Nat → ℝ) (hd : ∀ t, 0 ≤ d t) :
    Tens.AllNonneg (initRows N K elems (fun _ _ => (MTExtra.zero : ℝ)) d).1 := by
  rw [initRows_fst]
  apply ofFn_allNonneg
  intro j k _ _ _ _
  split
  · exact hd _
  · exact le_rfl

theorem initAff_wf (ik : InitKind) (userW : Tens ℝ) (hu : UserWOK assort K nv userW) (d : Nat → ℝ)
    (hd : ∀ t, 0 ≤ d t) :
    let w := (initAff assort ik K nv.nL userW d).1
    w.R = K ∧ w.C = (if assort then 1 else K) ∧ w.T = nv.nL ∧ Tens.AllNonneg w := by
  have hnoise : (0 : ℝ) ≤ MTExtra.noise := by rw [noise_value]; norm_num
  cases ik <;> cases assort
  · exact ⟨rfl, rfl, rfl, initAffRandom_general K nv.nL d ▸ ofFn_allNonneg fun _ _ _ _ _ _ => hd _⟩
  · exact ⟨rfl, rfl, rfl, initAffRandom_assort K nv.nL d ▸ ofFn_allNonneg fun _ _ _ _ _ _ => hd _⟩
  · exact ⟨hu.wR, hu.wR, hu.wT, initAffFromInitial_general userW d ▸ ofFn_allNonneg fun k q a _ _ _ =>
      add_nonneg (hu.nonneg k q a) (mul_nonneg hnoise (hd _))⟩
  · exact ⟨hu.wR, rfl, hu.wT, initAffFromInitial_assort userW d ▸ ofFn_allNonneg fun k _ a _ _ _ =>
      add_nonneg (hu.nonneg k 0 a) (mul_nonneg hnoise (hd _))⟩
  · exact ⟨hu.wR, hu.wC, hu.wT, hu.nonneg⟩
  · exact ⟨hu.wR, hu.wC, hu.wT, hu.nonneg⟩

/-- The start is well-formed for every non-negative stream; that the draws are below 1 plays no part. -/
theorem start_wf_of_nonneg (ik : InitKind) (userW : Tens ℝ) (hu : UserWOK assort K nv userW) (d : Nat → ℝ)
    (hd0 : ∀ t, 0 ≤ d t) :
    WFState assort K nv (realizationStart assort ik K N nv userW d).1 ∧
    (realizationStart assort ik K N nv userW d).1.u.R = N := by
  obtain ⟨h1, h2, h3, h4⟩ := initAff_wf assort K nv ik userW hu d hd0
  have hv := MTProps.C17.start_v assort ik K N nv userW d
  have hU := MTProps.C17.start_u assort ik K N nv userW d
  exact ⟨{ uC := rfl, uT := rfl, wR := h1, wC := h2, wT := h3, wNonneg := h4
           vShape := fun hdir => by rw [hv, if_pos hdir]; exact ⟨rfl, rfl, rfl⟩
           uSized := by rw [hU]; exact MTProps.C17.initRows_sized ..
           vSized := fun hdir => by rw [hv, if_pos hdir]; exact MTProps.C17.initRows_sized ..
           uNonneg := by rw [hU]; exact initRows_allNonneg K N _ _ fun t => hd0 _
           vNonneg := by
             rw [hv]; split
             · exact initRows_allNonneg K N _ _ fun t => hd0 _
             · exact zeros_allNonneg 0 0 0
           uZero := fun i k hi hk hni => by rw [hU]; exact MTProps.C17.other_rows_zero N K _ _ hi hk hni
           vZero := fun hdir j q hj hq hnj => by
             rw [hv, if_pos hdir]; exact MTProps.C17.other_rows_zero N K _ _ hj hq hnj }, rfl⟩

theorem start_wf (ik : InitKind) (userW : Tens ℝ) (hu : UserWOK assort K nv userW) (d : Nat → ℝ)
    (hd : StreamOK d) :
    WFState assort K nv (realizationStart assort ik K N nv userW d).1 ∧
    (realizationStart assort ik K N nv userW d).1.u.R = N :=
  start_wf_of_nonneg assort K N nv ik userW hu d fun t => (hd t).1

variable (maxIt nConv : Nat) (evalL : Nat → State ℝ → ℝ)

theorem final_state_wf (hM : 1 ≤ maxIt) (hC : 1 ≤ nConv) (ik : InitKind) (userW : Tens ℝ)
    (hu : UserWOK assort K nv userW) (d : Nat → ℝ) (hd : StreamOK d) (hwf : ViewWF nv N) :
    let o := runRealization assort ik K N nv maxIt nConv evalL userW d
    WFState assort K nv o.final ∧ o.final.u.R = N ∧ o.reason ≠ Reason.noTermination ∧
      1 ≤ o.iters ∧ o.iters ≤ maxIt := by
  obtain ⟨hr, h1, h2, -⟩ := MTProps.C05.iterations_bounds assort K nv maxIt nConv evalL
    (realizationStart assort ik K N nv userW d).1 hM hC
  obtain ⟨hw, hR⟩ := final_induction assort K nv _ ik N maxIt nConv evalL userW d
    (fun s hR => sweep_wf assort K nv s (hR ▸ hwf)) (start_wf assort K N nv ik userW hu d hd).1
  exact ⟨hw, hR, hr, h1, h2⟩

/-- what the call returns, with r ≥ 1 realizations (each likelihood above `lowest()`), is the final state
of one of them (the first best one, C04), hence well-formed; in undirected mode the in-membership
container is the caller's (`adoptState`) -/
theorem returned_wf (hM : 1 ≤ maxIt) (hC : 1 ≤ nConv) (ik : InitKind) (userW : Tens ℝ)
    (hu : UserWOK assort K nv userW) (d : Nat → ℝ) (hd : StreamOK d) (hwf : ViewWF nv N)
    (evalR : Nat → Nat → State ℝ → ℝ) (prior : State ℝ) (r : Nat) (hr : 1 ≤ r)
    (H : ∀ i, i < r → MTExtra.lowest < (outcomeOf assort ik K N nv maxIt nConv evalR userW d i).L2) :
    ∃ i, i < r ∧
      (runAll assort ik K N nv r maxIt nConv evalR userW d prior).best =
        adoptState nv prior (outcomeOf assort ik K N nv maxIt nConv evalR userW d i) ∧
      WFState assort K nv (outcomeOf assort ik K N nv maxIt nConv evalR userW d i).final ∧
      (outcomeOf assort ik K N nv maxIt nConv evalR userW d i).final.u.R = N := by
  obtain ⟨i, hi, _, _, hb, _⟩ := MTProps.C04.select_is_first_argmax assort ik K N nv maxIt nConv evalR userW d prior r hr H
  refine ⟨i, hi, hb, ?_⟩
  have := final_state_wf assort K N nv maxIt nConv (evalR i) hM hC ik userW hu
    (fun t => d (posSeq assort ik K N nv maxIt nConv evalR userW d i + t)) (fun t => hd _) hwf
  exact ⟨this.1, this.2.1⟩

theorem wf_reads {s : State ℝ} (h : WFState assort K nv s) :
    (∀ i k, 0 ≤ s.u.get i k 0) ∧ (∀ j q, 0 ≤ s.v.get j q 0) ∧ (∀ k q a, 0 ≤ s.w.get k q a) ∧
    (∀ i k, i < s.u.R → k < K → i ∉ nv.uList → s.u.get i k 0 = 0) ∧
    (nv.directed = true → ∀ j q, j < s.u.R → q < K → j ∉ nv.vList → s.v.get j q 0 = 0) :=
  ⟨fun i k => h.uNonneg i k 0, fun j q => h.vNonneg j q 0, fun k q a => h.wNonneg k q a, h.uZero, h.vZero⟩

/-- one membership row per distinct vertex label, listed once each in order of first appearance -/
theorem labels_wellformed {β ω : Type} [DecidableEq β] [Weight ω] (directed : Bool) (starts ends : List β)
    (weights : List ω) :
    (build directed starts ends weights).labels = firstApp (interleave starts ends) ∧
    (build directed starts ends weights).labels.Nodup :=
  ⟨rfl, firstApp_nodup _⟩

end MTProps.C03
