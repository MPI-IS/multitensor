/-
Code tie (whole call) — `multitensor_factorization` as it stands in main.hpp is the model's `factorizeWith`.

`Gen.mainCode` chains what the translator regenerates from the sources on every run: the eleven checks
(`validateCode`, main.hpp), the `Network` constructor and the two extraction methods (graph.hpp), `Solver::run`
(solver.hpp) — and inside `run`, through the statement table, the model's `loopStep`, `initAff`, `initRows`, which
are themselves tied to the translated loop nests of solver.hpp and initialization.hpp (MTProps/Code*.lean).
The theorem says that this chain returns exactly what the model returns: the same error (with the message the
code throws) or the same labels, memberships, affinity vector and report.  Every scalar type; the likelihood
evaluation may be scripted (the hook) as long as, for undirected graphs, it does not depend on the in-membership
slot the undirected code never uses — the real evaluation qualifies (`code_factorize`).  Corollaries: what C12
(relabelling) and C15 (rejection) prove of the model holds of the code (`code_relabel`, `code_reject`).
-/
import MTProps.C15
import MTProps.C12
import MTProps.CodeGraph
import MTProps.CodeRun

namespace MTProps.CodeMain
open MT MT.Gen MT.CodeRefine MTProofs MTProps.CodeGraph

/-- what the validation lets through is what the `Network` constructor needs: as many targets as sources and a layer;
the constructor's own layer count is the validated one -/
theorem validated_network {α β ω : Type} [DecidableEq β] [Weight ω] (inp : Input β ω α) {nL K : Nat} (hv : validate inp.shapes = .ok (nL, K)) :
    inp.starts.length = inp.ends.length ∧ (build inp.directed inp.starts inp.ends inp.weights).nL = nL ∧ 0 < nL := by
  obtain ⟨(a1 : 1 ≤ inp.starts.length), (a2 : inp.ends.length = inp.starts.length),
    (a3 : inp.weights.length = nL * inp.starts.length), (a4 : 1 ≤ nL), -⟩ := (MTProps.C15.validate_iff _ _ _).1 hv
  refine ⟨a2.symm, ?_, a4⟩
  show (if inp.starts.length = 0 then 0 else inp.weights.length / inp.starts.length) = nL
  rw [if_neg (Nat.ne_of_gt a1), a3, Nat.mul_div_cancel _ a1]

/-- a code state related to the model's accumulator returns what the model returns -/
theorem shown_of_rrel {α β : Type} {s : RunLoc α} {acc : RunAcc α} (h : RRel s acc) (labels : List β) :
    (labels, s.u, s.v, s.w.data, s.vec_iter, s.vec_term_reason, s.vec_L2) =
      (labels, acc.best.u, acc.best.v, acc.best.w.data, acc.report.iters, acc.report.reasons.map Reason.code,
        acc.report.L2s) := by
  obtain ⟨r1, r2, r3, -, r5, r6, r7⟩ := h
  rw [r1, r2, r3, r5, r6, r7]

section
variable {α β ω : Type} [Add α] [Sub α] [Mul α] [Div α] [LT α] [DecidableLT α] [MTExtra α] [DecidableEq β] [Weight ω]

/-- `extract_vertices_with_edges` writes the two lists only -/
theorem extractLists_frame (directed : Bool) (nL : Nat) (s : NetLoc β) :
    extractListsCode directed nL s =
      { s with u_list := (extractListsCode directed nL s).u_list, v_list := (extractListsCode directed nL s).v_list } := by
  rw [extractListsCode_eq]

/-- the adjacency and vertex lists the code hands to `Solver::run` are the model's `Net.view` -/
theorem code_view (directed : Bool) (starts ends : List β) (weights : List ω) (dflt : β)
    (hlen : starts.length = ends.length) (hnL : 0 < (build directed starts ends weights).nL) :
    let net := build directed starts ends weights
    let A0 := networkCode directed net.nL starts ends dflt (fun i a => (chunkUnits weights net.nL i).getD a 0) netInit
    let A := extractListsCode directed net.nL ({ ({ A0 with u_list := [] } : NetLoc β) with v_list := [] } : NetLoc β)
    (⟨directed, net.nL, A.outA, A.innA, A.u_list, A.v_list⟩ : NetView) = net.view ∧
    (extractLabelsCode A).labels = net.labels := by
  intro net A0 A
  obtain ⟨h1, -, h3, h4, -, h6, h7⟩ := code_network directed starts ends weights dflt hlen hnL
  obtain ⟨l1, l2, -⟩ := code_lists_and_labels directed starts ends weights dflt hlen hnL
  have hout : A0.outA = net.view.out := by
    rw [build_view_out]
    exact funext fun a => funext (h3 a)
  have hinn : A0.innA = net.view.inn := by
    cases directed
    · rw [view_inn_undirected _ rfl]
      exact funext fun a => funext (h7 rfl a)
    · rw [build_view_inn]
      exact funext fun a => funext (h4 rfl a)
  rw [show A = _ from extractLists_frame .., extractLabelsCode_eq]
  refine ⟨?_, ?_⟩
  · show (⟨directed, net.nL, A0.outA, A0.innA, A.u_list, A.v_list⟩ : NetView) = _
    rw [hout, hinn, l1, l2]
    exact (view_eq_mk net).symm
  · show (A0.vlab 0).take A0.nvertices = net.labels
    rw [h1 0 hnL, h6, nV_eq_of_layer hnL, List.take_length]

theorem mainCode_eq (inp : Input β ω α) (d : Nat → α) (dflt : β)
    (evalL : Bool → Nat → NetView → Nat → Nat → State α → α)
    (hE : inp.directed = false → ∀ assort K i it (s : State α) (v' : Tens α),
      evalL assort K (build inp.directed inp.starts inp.ends inp.weights).view i it { s with v := v' }
        = evalL assort K (build inp.directed inp.starts inp.ends inp.weights).view i it s) :
    mainCode inp.directed inp.assort inp.ik inp.starts inp.ends inp.weights dflt inp.r inp.maxIt inp.nConv
        inp.priorU inp.priorV inp.affinity evalL d
      = match factorizeWith inp d evalL with
        | .error e => .error (Err.message e)
        | .ok o => .ok (o.labels, o.u, o.v, o.affinity, o.report.iters, o.report.reasons.map Reason.code, o.report.L2s) := by
  have hval : validateCode inp.assort inp.starts.length inp.ends.length inp.weights.length inp.affinity.size
      (numVertices inp.starts inp.ends) inp.priorU.size inp.r inp.maxIt inp.nConv
        = (validate inp.shapes).mapError Err.message := MTProps.C15.validateCode_eq inp.shapes
  unfold mainCode factorizeWith
  rw [hval]
  cases hv : validate inp.shapes with
  | error e => rfl
  | ok p =>
    obtain ⟨nL, K⟩ := p
    obtain ⟨hlen, hnL, hpos⟩ := validated_network inp hv
    obtain ⟨cv, cl⟩ := code_view inp.directed inp.starts inp.ends inp.weights dflt hlen (hnL ▸ hpos)
    rw [hnL] at cv cl
    simp only [Except.mapError, bind, Except.bind, pure, Except.pure,
      show (if inp.starts.length = 0 then 0 else inp.weights.length / inp.starts.length) = nL from hnL]
    rw [cv, cl]
    refine congrArg Except.ok (shown_of_rrel ?_ _)
    apply runCode_refines
    · rfl
    · exact fun hf => hE hf _ _
    · exact ⟨rfl, rfl, rfl, rfl, rfl, rfl, rfl⟩

/-- the call as the library makes it: the likelihood evaluation is the state's own likelihood -/
theorem code_factorize (inp : Input β ω α) (d : Nat → α) (dflt : β) :
    mainCode inp.directed inp.assort inp.ik inp.starts inp.ends inp.weights dflt inp.r inp.maxIt inp.nConv
        inp.priorU inp.priorV inp.affinity (fun assort K nv _ _ s => stateLik assort K nv s) d
      = match factorize inp d with
        | .error e => .error (Err.message e)
        | .ok o => .ok (o.labels, o.u, o.v, o.affinity, o.report.iters, o.report.reasons.map Reason.code, o.report.L2s) :=
  mainCode_eq inp d dflt _ (fun hf assort K _ _ s v' =>
    MTProps.CodeRun.stateLik_ignores_v assort K _ (hf : (build inp.directed inp.starts inp.ends inp.weights).view.directed = false) s v')

/-- what `mainCode` returns for a model result -/
def shown (r : Except Err (Output β α)) :
    Except String (List β × Tens α × Tens α × Array α × List Nat × List Nat × List α) :=
  match r with
  | .error e => .error (Err.message e)
  | .ok o => .ok (o.labels, o.u, o.v, o.affinity, o.report.iters, o.report.reasons.map Reason.code, o.report.L2s)

/-- C12 on the code: `multitensor_factorization` as written, run on injectively relabelled records, returns the
same numbers and report, its rows carrying the new labels (`Float`: bit-identical) -/
theorem code_relabel {γ : Type} [DecidableEq γ] (f : β → γ) (hf : Function.Injective f)
    (inp : Input β ω α) (d : Nat → α) (dflt : β) (dflt' : γ) :
    mainCode inp.directed inp.assort inp.ik (inp.starts.map f) (inp.ends.map f) inp.weights dflt' inp.r inp.maxIt inp.nConv
        inp.priorU inp.priorV inp.affinity (fun assort K nv _ _ s => stateLik assort K nv s) d
      = (mainCode inp.directed inp.assort inp.ik inp.starts inp.ends inp.weights dflt inp.r inp.maxIt inp.nConv
          inp.priorU inp.priorV inp.affinity (fun assort K nv _ _ s => stateLik assort K nv s) d).map
        (fun t => (t.1.map f, t.2)) := by
  have h1 := code_factorize ({ inp with starts := inp.starts.map f, ends := inp.ends.map f } : Input γ ω α) d dflt'
  have h2 := code_factorize inp d dflt
  rw [h1, h2, MTProps.C12.relabel_factorize f hf inp d]
  cases factorize inp d <;> rfl

/-- C15 on the code: a rejected configuration makes `multitensor_factorization` as written return the check's
error; nothing else of the function is evaluated, so no output argument can have been touched -/
theorem code_reject (inp : Input β ω α) (d : Nat → α) (dflt : β) (e : Err)
    (h : validate inp.shapes = .error e) :
    mainCode inp.directed inp.assort inp.ik inp.starts inp.ends inp.weights dflt inp.r inp.maxIt inp.nConv
        inp.priorU inp.priorV inp.affinity (fun assort K nv _ _ s => stateLik assort K nv s) d
      = .error (Err.message e) := by
  rw [code_factorize inp d dflt, MTProps.C15.reject_leaves_outputs inp d e h]

end
end MTProps.CodeMain
