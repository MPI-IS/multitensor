/-
Code tie (2/3: `update_affinity`): called the way `Solver::loop` calls it, the translated loop nest leaves in every
entry the value of the model's `stepW`, for every scalar type.  What is regenerated, what this buys and what is
assumed, not proved, is said in CodeVertices.lean.
-/
import MTProofs.CodeRefineUW
import MTProofs.Steps
import MT.Generated.Control

namespace MTProps.CodeAffinity
open MT MT.Gen MT.CodeRefine MTProofs

section
variable {α : Type} [Add α] [Sub α] [Mul α] [Div α] [LT α] [DecidableLT α] [MTExtra α]
variable (assort : Bool) (K : Nat) (nv : NetView) (s : State α)

/-- `update_affinity(u_list, v_list, A, u, v, w)`, general affinity -/
theorem code_stepW_general (c : UWLoc α) (hc : ∀ k q a, c.w3 k q a = s.w.get k q a)
    {k q a : Nat} (hk : k < K) (hq : q < K) (ha : a < nv.nL) :
    (updateAffinityCode false K nv.nL s.u.R nv.uList nv.vList nv.out
        (fun i k => s.u.get i k 0) (fun i k => (if nv.directed then s.v else s.u).get i k 0)
        (diag2 (wView false false s.w)) (wView false false s.w) c).w3 k q a
      = (stepW false K nv s).w.get k q a := by
  rw [updateAffinityCode_refines_general false K nv.nL s.u.R nv.uList nv.vList nv.out
    (fun i k => s.u.get i k 0) (fun i k => (if nv.directed then s.v else s.u).get i k 0)
    (wView false false s.w) rfl c (fun k q a => by rw [hc]; rfl) k q a]
  rw [stepW_w, updateAffinity_get_general hk hq ha, if_pos ⟨hk, hq, ha⟩]

/-- `update_affinity(u_list, v_list, A, u, v, w)`, assortative (diagonal) affinity -/
theorem code_stepW_assortative (c : UWLoc α) (hc : ∀ k a, c.w2 k a = s.w.get k 0 a)
    {k a : Nat} (hk : k < K) (ha : a < nv.nL) :
    (updateAffinityCode true K nv.nL s.u.R nv.uList nv.vList nv.out
        (fun i k => s.u.get i k 0) (fun i k => (if nv.directed then s.v else s.u).get i k 0)
        (diag2 (wView true false s.w)) (wView true false s.w) c).w2 k a
      = (stepW true K nv s).w.get k 0 a := by
  rw [updateAffinityCode_refines_assortative true K nv.nL s.u.R nv.uList nv.vList nv.out
    (fun i k => s.u.get i k 0) (fun i k => (if nv.directed then s.v else s.u).get i k 0)
    (wView true false s.w) rfl c (fun k a => by rw [hc]; rfl) k a]
  rw [stepW_w, updateAffinity_get_assort hk ha, if_pos ⟨hk, ha⟩]

end

/-- the calls in `Solver::loop` hand the functions the arguments the theorems above assume -/
theorem affinity_call_arguments_documented :
    Gen.loopSteps.getLast? = some ("affinity", "u_list,v_list,A,u,v,w") ∧ Gen.loopSteps = [("out_edges_target_vertices", "u_list,v_list,A,w,v,u"),
      ("in_edges_source_vertices", "v_list,u_list,A,w,u,v"),
      ("in_edges_source_vertices", "v_list,u_list,A,wT,u,v"),
      ("affinity", "u_list,v_list,A,u,v,w")] := ⟨rfl, rfl⟩

/-- two vertices, one layer, one edge 0→1, K = 1 -/
example :
    let r := updateAffinityCode (α := Float) false 1 1 2 [0] [1] (fun _ i => if i = 0 then [1] else [])
      (fun _ _ => 0.5) (fun _ _ => 0.25) (fun _ _ => 2.0) (fun _ _ _ => 2.0)
      ⟨0, 0, 0, 0, 0, 0, fun _ _ => 2.0, fun _ _ _ => 2.0⟩
    r.w3 0 0 0 = 8.0 := by
  decide +kernel

end MTProps.CodeAffinity
