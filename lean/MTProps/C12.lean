/-
C12 — vertex labels are opaque.  The model indexes vertices by first appearance through a list
lookup; the code uses `std::map` (ordered by label) only for find/insert and `std::set` only for a
count.  Theorem: an injective relabelling (to any label type with decidable equality) commutes
with network construction — indices, adjacency, vertex lists identical; rows carry the new labels.
Tie: paired real runs with order-reversing, sparse, huge, negative and string labels, compared bitwise.
-/
import MTProofs.Graph
import MT.Main

namespace MTProps.C12
open MT MTProofs

variable {β γ ω : Type} [DecidableEq β] [DecidableEq γ] [Weight ω]

theorem relabel_equivariant (f : β → γ) (hf : Function.Injective f) (directed : Bool)
    (starts ends : List β) (weights : List ω) :
    build directed (starts.map f) (ends.map f) weights =
      { directed := directed,
        nL := (build directed starts ends weights).nL,
        labels := (build directed starts ends weights).labels.map f,
        recs := (build directed starts ends weights).recs } := by
  unfold build
  simp only [List.length_map, interleave_map, firstApp_map f hf]
  congr 1
  rw [List.zip_map, List.zipIdx_map, List.map_map]
  apply List.map_congr_left
  intro p _
  simp only [Function.comp, Prod.map_fst, Prod.map_snd, id_eq, idxOf_map f hf]

theorem relabel_view (f : β → γ) (hf : Function.Injective f) (directed : Bool)
    (starts ends : List β) (weights : List ω) :
    (build directed (starts.map f) (ends.map f) weights).view =
      (build directed starts ends weights).view := by
  rw [relabel_equivariant f hf]
  exact view_congr rfl rfl (by simp [Net.nV]) rfl fun _ => rfl

theorem relabel_numVertices (f : β → γ) (hf : Function.Injective f) (starts ends : List β) :
    numVertices (starts.map f) (ends.map f) = numVertices starts ends := by
  unfold numVertices
  rw [← List.map_append, firstApp_map f hf, List.length_map]

section
variable {α : Type} [Add α] [Sub α] [Mul α] [Div α] [LT α] [DecidableLT α] [MTExtra α]

/-- the whole call returns identical numeric results (bit-identical for `Float`, since this holds for
every scalar type) whose rows carry the corresponding new labels -/
theorem relabel_factorize (f : β → γ) (hf : Function.Injective f) (inp : Input β ω α) (d : Nat → α) :
    factorize { inp with starts := inp.starts.map f, ends := inp.ends.map f } d =
      (factorize inp d).map fun o => { o with labels := o.labels.map f } := by
  unfold factorize factorizeWith
  have hs : (Input.shapes { inp with starts := inp.starts.map f, ends := inp.ends.map f }) = inp.shapes := by
    unfold Input.shapes
    simp only [List.length_map, relabel_numVertices f hf]
  simp only [hs]
  cases hv : validate inp.shapes with
  | error e => rfl
  | ok p =>
    simp only [bind, Except.bind, Except.map, pure, Except.pure]
    rw [relabel_view f hf, relabel_equivariant f hf]

end

/-- an order-reversing relabelling into strings -/
example :
    (build true ["z", "a"] ["a", "m"] ([1, 2] : List Nat)).recs =
      (build true [0, 5] [5, 9] ([1, 2] : List Nat)).recs := by decide

end MTProps.C12
