/-
C06 — the reported likelihood is the Poisson log-likelihood of the factors.
`MT.likelihood` keeps the structure of `calculate_likelyhood` (solver.hpp:376-447): one accumulator
threaded through all loops, every `uvw` subtracted, `log_arg` collected only when the edge exists,
parallel edges counted afterwards.  Theorem: over ℝ this is `Σ_a Σ_i Σ_j (A·ln M − M)` with the
per-pair guard, `A` = multiplicity in the out-list (both orientations when undirected, by C08).
Cadence: the value reported for a realization that made `n` sweeps is the evaluation after sweep
`10⌊(n−1)/10⌋+1`.  Tie: `lik` correspondence on states over multigraphs + closed-form oracle computed
from the edge list; cadence via the trace.
-/
import MTProofs.Likelihood
import MTProofs.Control
import MTProps.C05

namespace MTProps.C06
open MT MTProofs Finset

theorem likelihood_eq_poisson (assort : Bool) (K : Nat) (nv : NetView) (s : State ℝ) :
    stateLik assort K nv s =
      ∑ a ∈ range nv.nL, ∑ i ∈ range s.u.R, ∑ j ∈ range s.u.R,
        ((if ε < rate assort K (wView assort false s.w)
                  (fun i k => (if nv.directed then s.v else s.u).get i k 0) (fun i k => s.u.get i k 0) i j a
              ∧ 0 < (nv.out a i).count j then
            ((nv.out a i).count j : ℝ) *
              Real.log (rate assort K (wView assort false s.w)
                (fun i k => (if nv.directed then s.v else s.u).get i k 0) (fun i k => s.u.get i k 0) i j a)
          else 0)
          - rate assort K (wView assort false s.w)
              (fun i k => (if nv.directed then s.v else s.u).get i k 0) (fun i k => s.u.get i k 0) i j a) := by
  rw [stateLik_eq]
  rfl

theorem rate_general (K : Nat) (wf : Nat → Nat → Nat → ℝ) (u v : Nat → Nat → ℝ) (i j a : Nat) :
    rate false K wf v u i j a = ∑ k ∈ range K, ∑ q ∈ range K, u i k * v j q * wf k q a := by
  unfold rate gsum; simp

theorem rate_assortative (K : Nat) (wf : Nat → Nat → Nat → ℝ) (u v : Nat → Nat → ℝ) (i j a : Nat) :
    rate true K wf v u i j a = ∑ k ∈ range K, u i k * v j k * wf k k a := by
  unfold rate gsum; simp

theorem cell_below_guard (assort : Bool) (K : Nat) (out : Nat → Nat → List Nat) (u v : Nat → Nat → ℝ)
    (wf : Nat → Nat → Nat → ℝ) (a i j : Nat) (h : rate assort K wf v u i j a ≤ ε) :
    cellLL assort K out u v wf a i j = - rate assort K wf v u i j a := by
  unfold cellLL
  rw [if_neg (by intro hc; exact absurd hc.1 (not_lt.mpr h))]
  ring

theorem cell_above_guard (assort : Bool) (K : Nat) (out : Nat → Nat → List Nat) (u v : Nat → Nat → ℝ)
    (wf : Nat → Nat → Nat → ℝ) (a i j : Nat) (h : ε < rate assort K wf v u i j a) :
    cellLL assort K out u v wf a i j =
      ((out a i).count j : ℝ) * Real.log (rate assort K wf v u i j a) - rate assort K wf v u i j a :=
  cellLL_eq_free fun _ => h

section cadence
variable (assort : Bool) (K : Nat) (nv : NetView) (maxIt nConv : Nat) (s0 : State ℝ)

theorem reported_L_is_last_eval (hM : 1 ≤ maxIt) (hC : 1 ≤ nConv) :
    let r := runLoop assort K nv maxIt nConv (fun _ s => stateLik assort K nv s) maxIt s0 ctlInit
    r.2.1.L2 = stateLik assort K nv
      (traj assort K nv s0 (10 * ((r.2.1.iteration - 1) / 10) + 1)) :=
  (runLoop_start assort K nv maxIt nConv (fun _ s => stateLik assort K nv s) s0).2.2.2.trans <|
    Lseq_evals assort K nv (fun _ s => stateLik assort K nv s) s0
      (MTProps.C05.iterations_bounds assort K nv maxIt nConv (fun _ s => stateLik assort K nv s) s0 hM hC).2.1

/-- the case of CONVERGED, where `n = 10m+1` -/
theorem reported_L_is_final_on_evaluation (hM : 1 ≤ maxIt) (hC : 1 ≤ nConv)
    (hn : (runLoop assort K nv maxIt nConv (fun _ s => stateLik assort K nv s) maxIt s0 ctlInit).2.1.iteration % 10 = 1) :
    let r := runLoop assort K nv maxIt nConv (fun _ s => stateLik assort K nv s) maxIt s0 ctlInit
    r.2.1.L2 = stateLik assort K nv r.1 := by
  intro r
  have hn : r.2.1.iteration % 10 = 1 := hn
  have h : r.2.1.L2 = _ := reported_L_is_last_eval assort K nv maxIt nConv s0 hM hC
  have hfin : r.1 = traj assort K nv s0 r.2.1.iteration :=
    (runLoop_start assort K nv maxIt nConv (fun _ s => stateLik assort K nv s) s0).2.2.1
  rw [h, hfin]
  generalize r.2.1.iteration = n at hn
  rw [show 10 * ((n - 1) / 10) + 1 = n by omega]

end cadence

end MTProps.C06
