/-
Where state could survive from one call to the next (C07): the model of a call is a function of its arguments, and the
ties to the code are made call by call.  That no call can see anything of an earlier one is, on the code side, the
fact that the library and the command line declare no static, thread_local, mutable or extern storage, and that the two
long-lived classes hold nothing but their parameters (`Solver`) and the network (`Network`).  The inventory is regenerated
from the sources on every run (tools/gen_utils_code.py; the guarded verification hooks are left out); a cache, a
memoised value or a new member is a broken obligation here, and the check then looks for a history on which it shows
(solver-object, generator-object and call-order histories of C07).
-/
import MT.Generated.UtilsCode

namespace MTProps.CodeState
open MT

/-- nothing in include/multitensor, applications/include or applications/src is declared static, thread_local, mutable
or extern -/
theorem no_static_storage : Gen.staticStorage = [] := rfl

theorem solver_members_documented :
    Gen.solverMembers = "size_tnof_realizations;|size_tmax_nof_iterations;|size_tnof_convergences;" := rfl

theorem network_members_documented :
    Gen.networkMembers = "dimension_tnlayers;|size_tnvertices,nedges;|std::vector<graph_t>layers;|std::map<vertex_t,size_t>idx_map;" := rfl

end MTProps.CodeState
