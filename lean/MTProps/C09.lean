/-
C09 — mass balance: expected edge count equals observed edge count per layer.
Theorem (over ℝ, on the model's affinity step `stepW`, hence on every completed sweep since the
affinity is updated last): under exactly the property's three preconditions, for every layer,
  Σ_{i,j} M'_{ij} + (mass of the entries snapped to zero in this step) = Σ_{i,j} A_{ij},
`A` = multiplicities of the out-lists (both orientations when undirected, C08).
Tie: run/trace correspondence + balance monitor evaluated on the implementation's own states.
-/
import MTProofs.MassBalance
import MTProps.C02
import MTProofs.Invariants

namespace MTProps.C09
open MT MTProofs Finset MTProps.C02

variable (assort : Bool) (K : Nat) (nv : NetView) (s : State ℝ)

noncomputable abbrev vOf (nv : NetView) (s : State ℝ) : Nat → Nat → ℝ :=
  fun i k => (if nv.directed then s.v else s.u).get i k 0

noncomputable abbrev uOf (s : State ℝ) : Nat → Nat → ℝ := fun i k => s.u.get i k 0

/-- rows outside the source/target lists are zero, so list sums are sums over all vertices
(an invariant of the solver, C03) -/
structure Supported : Prop where
  uSum : ∀ k, sumL nv.uList (fun i => uOf s i k) = ∑ i ∈ range s.u.R, uOf s i k
  vSum : ∀ q, sumL nv.vList (fun j => vOf nv s j q) = ∑ j ∈ range s.u.R, vOf nv s j q

theorem mass_balance (hwf : ViewWF nv s.u.R) (hsup : Supported nv s) {a : Nat} (ha : a < nv.nL)
    -- (i) every observed edge has rate > ε under (u', v', w)
    (hRates : ∀ i j, i < s.u.R → j < s.u.R → 0 < (nv.out a i).count j →
      ε < rate assort K (wView assort false s.w) (vOf nv s) (uOf s) i j a)
    -- (ii) every entry of w is 0 or > ε
    (hW : ∀ k q, k < K → q < K → wView assort false s.w k q a = 0 ∨ ε < wView assort false s.w k q a)
    -- (iii) for every group pair with a positive affinity entry the product of the summed memberships exceeds ε
    (hZ : ∀ k q, k < K → q < K → 0 < wView assort false s.w k q a →
      ε < specWZ nv.uList nv.vList (uOf s) (vOf nv s) k q) :
    (∑ i ∈ range s.u.R, ∑ j ∈ range s.u.R,
        rate assort K (wView assort false (stepW assort K nv s).w) (vOf nv s) (uOf s) i j a)
      + snappedMass assort K s.u.R nv.uList nv.vList nv.out (uOf s) (vOf nv s) (wView assort false s.w) a
      = ∑ i ∈ range s.u.R, ∑ j ∈ range s.u.R, ((nv.out a i).count j : ℝ) := by
  have e : ∀ i j, rate assort K (wView assort false (stepW assort K nv s).w) (vOf nv s) (uOf s) i j a =
      rate assort K (newW assort K s.u.R nv.uList nv.vList nv.out (uOf s) (vOf nv s) (wView assort false s.w))
        (vOf nv s) (uOf s) i j a := fun i j =>
    gsum_congr' fun k q hk hq hdiag => by rw [stepW_entry assort K nv s hwf hk hq ha hdiag]; rfl
  simp only [e]
  exact MTProofs.mass_balance assort K s.u.R nv.uList nv.vList nv.out (uOf s) (vOf nv s)
    (wView assort false s.w) a hsup.uSum hsup.vSum hRates hW hZ

/-- the snapped mass is small: each snapped entry is below ε before truncation, so
`|snapped mass| ≤ ε · Σ_{(k,q)} |Du_k Dv_q|` -/
theorem snappedMass_bound (N : Nat) (uList vList : List Nat) (out : Nat → Nat → List Nat)
    (u v : Nat → Nat → ℝ) (w : Nat → Nat → Nat → ℝ) (a : Nat) :
    |snappedMass assort K N uList vList out u v w a| ≤
      gsum assort K (fun k q => ε * |specWZ uList vList u v k q|) := by
  unfold snappedMass
  rw [gsum_eq_sum_gP, gsum_eq_sum_gP]
  refine le_trans (abs_sum_le_sum_abs _ _) (sum_le_sum fun p _ => ?_)
  split
  · rename_i h
    rw [abs_mul, mul_comm]
    exact mul_le_mul_of_nonneg_right (le_of_lt h.2.2) (abs_nonneg _)
  · rw [abs_zero]
    exact mul_nonneg eps_pos.le (abs_nonneg _)

theorem mass_balance_exact (hwf : ViewWF nv s.u.R) (hsup : Supported nv s) {a : Nat} (ha : a < nv.nL)
    (hRates : ∀ i j, i < s.u.R → j < s.u.R → 0 < (nv.out a i).count j →
      ε < rate assort K (wView assort false s.w) (vOf nv s) (uOf s) i j a)
    (hW : ∀ k q, k < K → q < K → wView assort false s.w k q a = 0 ∨ ε < wView assort false s.w k q a)
    (hZ : ∀ k q, k < K → q < K → 0 < wView assort false s.w k q a →
      ε < specWZ nv.uList nv.vList (uOf s) (vOf nv s) k q)
    (hNoSnap : snappedMass assort K s.u.R nv.uList nv.vList nv.out (uOf s) (vOf nv s) (wView assort false s.w) a = 0) :
    ∑ i ∈ range s.u.R, ∑ j ∈ range s.u.R,
        rate assort K (wView assort false (stepW assort K nv s).w) (vOf nv s) (uOf s) i j a
      = ∑ i ∈ range s.u.R, ∑ j ∈ range s.u.R, ((nv.out a i).count j : ℝ) := by
  have := mass_balance assort K nv s hwf hsup ha hRates hW hZ
  rw [hNoSnap, add_zero] at this
  exact this

theorem supported_of_zero_rows {β : Type} (n : Net β) (s : State ℝ) (hN : n.nV = s.u.R)
    (hzu : ∀ i k, i < s.u.R → i ∉ n.uList → s.u.get i k 0 = 0)
    (hzv : ∀ j q, j < s.u.R → j ∉ n.vList → (if n.directed then s.v else s.u).get j q 0 = 0) :
    Supported n.view s :=
  ⟨fun k => sumL_support (listed_nodup n).1 (hN ▸ (listed_lt n).1) fun i hi hni => hzu i k hi hni,
    fun q => sumL_support (listed_nodup n).2 (hN ▸ (listed_lt n).2) fun j hj hnj => hzv j q hj hnj⟩

structure ListsOK (N : Nat) : Prop where
  uNodup : nv.uList.Nodup
  vNodup : nv.vList.Nodup
  uLt : ∀ i ∈ nv.uList, i < N
  vLt : ∀ j ∈ nv.vList, j < N
  undirected : nv.directed = false → nv.vList = nv.uList

theorem supported_of_wf (hl : ListsOK nv s.u.R) (h : WFState assort K nv s) : Supported nv s := by
  refine ⟨fun k => sumL_support hl.uNodup hl.uLt fun i hi hni => h.uZero' hi hni k,
    fun q => sumL_support hl.vNodup hl.vLt fun j hj hnj => ?_⟩
  show (if nv.directed then s.v else s.u).get j q 0 = 0
  cases hd : nv.directed
  · exact h.uZero' hj (hl.undirected hd ▸ hnj) q
  · exact h.vZero' hd hj hnj q

/-- C09 at every sweep boundary of a realization: for a well-formed state `s` (C03), after the completed
iteration `sweep s`, under the property's preconditions evaluated on (u', v', w) -/
theorem sweep_mass_balance (hwf : ViewWF nv s.u.R) (hl : ListsOK nv s.u.R) (h : WFState assort K nv s)
    {a : Nat} (ha : a < nv.nL) :
    let s' := stepV assort K nv (stepU assort K nv s)
    (∀ i j, i < s.u.R → j < s.u.R → 0 < (nv.out a i).count j →
      ε < rate assort K (wView assort false s'.w) (vOf nv s') (uOf s') i j a) →
    (∀ k q, k < K → q < K → wView assort false s'.w k q a = 0 ∨ ε < wView assort false s'.w k q a) →
    (∀ k q, k < K → q < K → 0 < wView assort false s'.w k q a →
      ε < specWZ nv.uList nv.vList (uOf s') (vOf nv s') k q) →
    (∑ i ∈ range s.u.R, ∑ j ∈ range s.u.R,
        rate assort K (wView assort false (sweep assort K nv s).w) (vOf nv s') (uOf s') i j a)
      + snappedMass assort K s.u.R nv.uList nv.vList nv.out (uOf s') (vOf nv s') (wView assort false s'.w) a
      = ∑ i ∈ range s.u.R, ∑ j ∈ range s.u.R, ((nv.out a i).count j : ℝ) := by
  intro s' hRates hW hZ
  have h2 : WFState assort K nv s' := stepV_wf hwf (stepU_wf hwf h)
  have hR : s'.u.R = s.u.R := (congrArg Tens.R (stepV_u assort K nv (stepU assort K nv s))).trans (stepU_u_R assort K nv s)
  have hsup : Supported nv s' := supported_of_wf assort K nv s' (by rw [hR]; exact hl) h2
  have := mass_balance assort K nv s' (by rw [hR]; exact hwf) hsup ha
    (by rw [hR]; exact hRates) hW hZ
  rw [hR] at this
  exact this

end MTProps.C09
