/-
Code tie (3/3: `calculate_likelyhood`): called the way `Solver::loop` calls it, the translated loop nest returns the
model's `stateLik`, for every scalar type.  What is regenerated, what this buys and what is assumed, not proved, is
said in CodeVertices.lean.
-/
import MTProofs.CodeRefineLK

namespace MTProps.CodeLikelihood
open MT MT.Gen MT.CodeRefine

section
variable {α : Type} [Add α] [Sub α] [Mul α] [Div α] [LT α] [DecidableLT α] [MTExtra α]
variable (assort : Bool) (K : Nat) (nv : NetView) (s : State α)

/-- `calculate_likelyhood(u, v, w, A)` -/
theorem code_stateLik (c : LKLoc α) (hc : c.l = MTExtra.zero) :
    (likelihoodCode assort K nv.nL s.u.R nv.out
        (fun i k => s.u.get i k 0) (fun i k => (if nv.directed then s.v else s.u).get i k 0)
        (diag2 (wView assort false s.w)) (wView assort false s.w) c).l
      = stateLik assort K nv s :=
  likelihoodCode_refines assort K nv.nL s.u.R nv.out _ _ (wView assort false s.w) c hc

end

/-- two vertices, one layer, no edge: the value is minus the total rate -/
example :
    let r := likelihoodCode (α := Float) false 1 1 2 (fun _ _ => [])
      (fun _ _ => 0.5) (fun _ _ => 0.25) (fun _ _ => 2.0) (fun _ _ _ => 2.0) ⟨0, 0, 0, 0⟩
    r.l = -1.0 := by
  decide +kernel

end MTProps.CodeLikelihood
