/-
C18 — tensor storage layout contract.  About `Gen.getIndexSrc`, `Gen.transposeArgs3`, `Gen.writerIdx*`,
`Gen.pyxEntryPos`, which the translator regenerates from tensor.hpp / app_utils.hpp / multitensor.pyx
on every run.  No bound on the dimensions.  The mixed-radix arithmetic (`mul_add_lt`, `mul_add_div_mod`, `div_mod_lt`),
the inverse `inv` and `get_ofFn` (what `Tens.ofFn` holds at an index in range) are what the other modules use.
-/
import MT.Generated.UtilsCode
import MT.Tensor
import Mathlib.Tactic.Ring
import Mathlib.Tactic.Linarith

namespace MTProps.C18
open MT

/-- the documented layout -/
def spec (R C _T i j a : Nat) : Nat := a * R * C + j * R + i

/-- the text of `get_index` is the documented layout -/
theorem index_eq_spec (R C T i j a : Nat) : Gen.getIndexSrc R C T i j a = spec R C T i j a := by
  unfold Gen.getIndexSrc spec; ring

theorem mul_add_lt {a K i L : Nat} (ha : a < L) (hi : i < K) : a * K + i < L * K :=
  calc a * K + i < a * K + K := Nat.add_lt_add_left hi _
    _ = (a + 1) * K := (Nat.succ_mul a K).symm
    _ ≤ L * K := Nat.mul_le_mul_right K ha

theorem mul_add_div_mod (a : Nat) {K i : Nat} (hi : i < K) : (a * K + i) / K = a ∧ (a * K + i) % K = i := by
  rw [Nat.mul_comm, Nat.mul_add_div (Nat.zero_lt_of_lt hi), Nat.mul_add_mod_self_left, Nat.div_eq_of_lt hi,
    Nat.mod_eq_of_lt hi]
  exact ⟨rfl, rfl⟩

theorem div_mod_lt {L K t : Nat} (h : t < L * K) : t / K < L ∧ t % K < K ∧ t / K * K + t % K = t :=
  have hK : 0 < K := Nat.pos_of_ne_zero fun h0 => by rw [h0] at h; exact Nat.not_lt_zero _ h
  ⟨Nat.div_lt_of_lt_mul (Nat.mul_comm L K ▸ h), Nat.mod_lt _ hK, Nat.div_add_mod' t K⟩

/-- a two-digit position `h * R + i`, `i < R`, whose high digit `h = a * C + j` is again one: bound and
inverse come digit by digit -/
theorem spec_eq (R C T i j a : Nat) : spec R C T i j a = (a * C + j) * R + i := by
  unfold spec; rw [Nat.add_mul, Nat.mul_right_comm]

theorem size_rev (R C T : Nat) : R * C * T = T * C * R := by
  rw [Nat.mul_comm (R * C), Nat.mul_comm R, Nat.mul_assoc]

/-- the assertion at tensor.hpp:65 can never fire -/
theorem index_lt_size {R C T i j a : Nat} (hi : i < R) (hj : j < C) (ha : a < T) :
    spec R C T i j a < R * C * T := by
  rw [spec_eq, size_rev]
  exact mul_add_lt (mul_add_lt ha hj) hi

def inv (R C : Nat) (p : Nat) : Nat × Nat × Nat := (p % R, p / R % C, p / (R * C))

theorem inv_spec {R C T i j a : Nat} (hi : i < R) (hj : j < C) :
    inv R C (spec R C T i j a) = (i, j, a) := by
  obtain ⟨h1, h2⟩ := mul_add_div_mod (a * C + j) hi
  obtain ⟨h3, h4⟩ := mul_add_div_mod a hj
  unfold inv
  rw [← Nat.div_div_eq_div_mul, spec_eq, h1, h2, h3, h4]

theorem index_injective {R C T i j a i' j' a' : Nat} (hi : i < R) (hj : j < C) (hi' : i' < R)
    (hj' : j' < C) (h : spec R C T i j a = spec R C T i' j' a') : (i, j, a) = (i', j', a') := by
  rw [← inv_spec (T := T) hi hj, ← inv_spec (T := T) hi' hj', h]

theorem index_surjective {R C T p : Nat} (hp : p < R * C * T) :
    let t := inv R C p
    t.1 < R ∧ t.2.1 < C ∧ t.2.2 < T ∧ spec R C T t.1 t.2.1 t.2.2 = p := by
  rw [size_rev] at hp
  obtain ⟨h1, h2, h3⟩ := div_mod_lt hp
  obtain ⟨h4, h5, h6⟩ := div_mod_lt h1
  refine ⟨h2, h5, ?_, ?_⟩
  · show p / (R * C) < T
    rwa [← Nat.div_div_eq_div_mul]
  · show spec R C T (p % R) (p / R % C) (p / (R * C)) = p
    rw [spec_eq, ← Nat.div_div_eq_div_mul, h6, h3]

theorem index_bijective (R C T : Nat) :
    (∀ i j a, i < R → j < C → a < T → spec R C T i j a < R * C * T) ∧
    (∀ i j a i' j' a', i < R → j < C → i' < R → j' < C →
        spec R C T i j a = spec R C T i' j' a' → (i, j, a) = (i', j', a')) ∧
    (∀ p, p < R * C * T → ∃ i j a, i < R ∧ j < C ∧ a < T ∧ spec R C T i j a = p) :=
  ⟨fun _ _ _ hi hj ha => index_lt_size hi hj ha,
   fun _ _ _ _ _ _ hi hj hi' hj' h => index_injective hi hj hi' hj' h,
   fun p hp => ⟨_, _, _, (index_surjective hp)⟩⟩

/-- the transposed view exposes `(i,j,a)` as `(j,i,a)` (argument order of `Transpose::operator()`) -/
theorem transpose_view (i j a : Nat) : Gen.transposeArgs3 i j a = (j, i, a) := rfl

/-- the two-index accessors: swapped, except that a diagonal tensor (`true`) is its own transpose -/
theorem transpose_view2 (i j : Nat) :
    Gen.transposeArgs2 false i j = (j, i) ∧ Gen.transposeArgs2 true i j = (i, j) := ⟨rfl, rfl⟩

/-- matrices are single-layer tensors, diagonal tensors have `C = 1` -/
theorem accessor_args (i j a : Nat) : Gen.matArgs i j = (i, j, 0) ∧ Gen.diagArgs i a = (i, 0, a) :=
  ⟨rfl, rfl⟩

/-- the affinity vector exchanged with callers, general layout: `R = C = K` -/
theorem writer_position_general (K L k q a : Nat) :
    Gen.writerIdxGeneral K L k q a = spec K K L k q a := by
  unfold Gen.writerIdxGeneral spec; ring

/-- assortative layout: `C = 1` -/
theorem writer_position_assort (K L k a : Nat) :
    Gen.writerIdxAssort K L k a = spec K 1 L k 0 a := by
  unfold Gen.writerIdxAssort spec; ring

/-- the writer takes the assortative branch exactly on vectors of size `K*L` -/
theorem writer_layout_test (K L : Nat) : Gen.writerAssortSize K L = K * 1 * L := by
  unfold Gen.writerAssortSize; ring

/-- Python: entry `[k][q]` of the array returned for layer `l` (`reshape((-1,K)).T`, `num_vals = K*K`)
is the tensor entry `(k,q,l)` -/
theorem python_reshape_T (K L l k q : Nat) :
    Gen.pyxEntryPos K (K * K) l k q = spec K K L k q l := by
  unfold Gen.pyxEntryPos spec; ring

/-- … and in the assortative case (`num_vals = K`, a K×1 block ravelled) entry `k` is `(k,0,l)` -/
theorem python_reshape_T_assort (K L l k : Nat) :
    Gen.pyxEntryPos K K l k 0 = spec K 1 L k 0 l := by
  unfold Gen.pyxEntryPos spec; ring

theorem get_ofFn {α : Type} [MTExtra α] (R C T : Nat) (f : Nat → Nat → Nat → α) {i j a : Nat}
    (hi : i < R) (hj : j < C) (ha : a < T) : (Tens.ofFn R C T f).get i j a = f i j a := by
  have hlt := index_lt_size hi hj ha
  have hinv := inv_spec (T := T) (a := a) hi hj
  simp only [inv, Prod.mk.injEq] at hinv
  obtain ⟨h1, h2, h3⟩ := hinv
  unfold Tens.get Tens.ofFn
  simp only [index_eq_spec]
  rw [Array.getD_eq_getD_getElem?, Array.getElem?_ofFn]
  simp only [hlt, ↓reduceDIte, Option.getD_some, h1, h2, h3]

example : spec 2 3 2 1 2 1 = 11 ∧ spec 2 3 2 1 2 1 < 2 * 3 * 2 := by decide

/-- `Tensor::resize` as it stands in tensor.hpp: the new dimensions are stored and the storage is cleared and
zero-filled to the new element count (the model's `Tens.zeros`) -/
theorem tensor_resize_documented :
    Gen.tensorResizeText = "nrows=nrows_;ncols=ncols_;ntubes=ntubes_;data.clear();data.assign(nrows*ncols*ntubes,scalar_t(0));" := rfl

/-- the `resize` members of the three derived classes only forward to `Tensor::resize` with their own shape
(square layers, one layer, one column) -/
theorem tensor_resize_overrides_documented :
    Gen.tensorResizeAll = ["nrows=nrows_;ncols=ncols_;ntubes=ntubes_;data.clear();data.assign(nrows*ncols*ntubes,scalar_t(0));",
      "Tensor<scalar_t>::resize(nrows,nrows,ntubes);", "Tensor<scalar_t>::resize(nrows,ncols,1);",
      "Tensor<scalar_t>::resize(nrows,1,ntubes);"] := rfl

end MTProps.C18
