/-
C15 — invalid configurations are rejected before anything is computed or written.
`MT.validate` mirrors main.hpp:80-182 check by check (tie: `validate` correspondence on boundary
shape vectors, all 8 variants).  Here: it accepts exactly the documented shapes; a rejected call returns the
error and nothing else, and the command line writes files only after a successful call; the eleven checks as
they stand in main.hpp (translated on every run) are `validate`, no output argument is mentioned before the last
of them, and `get_num_vertices` is pinned.
-/
import MT.Generated.UtilsCode
import MTProofs.Checks
import MT.Main
import MT.CliMain
import MT.Generated.MainCode
import Mathlib.Data.Nat.Sqrt

namespace MTProps.C15
open MT

/-- the documented acceptance predicate -/
def Accept (sh : Shapes) (L K : Nat) : Prop :=
  1 ≤ sh.nStarts ∧ sh.nEnds = sh.nStarts ∧ sh.nWeights = L * sh.nStarts ∧ 1 ≤ L ∧
  2 ≤ K ∧ sh.nAffinity = affSize sh.assort K L ∧
  2 ≤ sh.nDistinct ∧ sh.uSize = sh.nDistinct * K ∧ 1 ≤ sh.r ∧ 1 ≤ sh.maxIt ∧ 1 ≤ sh.nConv

theorem inferK_of_form (assort : Bool) {K L : Nat} (hL : 1 ≤ L) :
    inferK assort (affSize assort K L) L = K := by
  have hL' : 0 < L := hL
  unfold inferK affSize
  cases assort
  · simp only [Bool.false_eq_true, ↓reduceIte, Nat.mul_div_cancel _ hL', Nat.sqrt_eq]
  · simp only [↓reduceIte, Nat.mul_div_cancel _ hL']

theorem validate_iff (sh : Shapes) (L K : Nat) : validate sh = .ok (L, K) ↔ Accept sh L K := by
  unfold validate Accept
  simp only [MTProofs.ite_error_eq_ok_iff, Except.ok.injEq, Prod.mk.injEq, Nat.not_lt, ne_eq, not_not]
  constructor
  · rintro ⟨h1, h2, h3, h4, h5, h6, h7, h8, h9, h10, h11, rfl, rfl⟩
    exact ⟨h1, h2.symm, (Nat.div_mul_cancel (Nat.dvd_of_mod_eq_zero h3)).symm, h4, h5, h6.symm, h7, h8.symm,
      h9, h10, h11⟩
  · rintro ⟨h1, h2, h3, h4, h5, h6, h7, h8, h9, h10, h11⟩
    have hdiv : sh.nWeights / sh.nStarts = L := by rw [h3]; exact Nat.mul_div_cancel _ h1
    have hK : inferK sh.assort sh.nAffinity L = K := by rw [h6]; exact inferK_of_form sh.assort h4
    rw [hdiv, hK]
    exact ⟨h1, h2.symm, by rw [h3]; exact Nat.mul_mod_left _ _, h4, h5, h6.symm, h7, h8.symm, h9, h10, h11,
      rfl, rfl⟩

theorem validate_rejects (sh : Shapes) (h : ¬ ∃ L K, Accept sh L K) : ∃ e, validate sh = .error e :=
  MTProofs.rejected_of_not_ok fun p hp => h ⟨p.1, p.2, (validate_iff sh p.1 p.2).1 hp⟩

section
variable {α : Type} [Add α] [Sub α] [Mul α] [Div α] [LT α] [DecidableLT α] [MTExtra α]

/-- when validation fails, `factorize` returns that error and nothing else of the call is evaluated: the
outputs are the caller's untouched containers -/
theorem reject_leaves_outputs {β ω : Type} [DecidableEq β] [Weight ω] (inp : Input β ω α) (d : Nat → α)
    (e : Err) (h : validate inp.shapes = .error e) : factorize inp d = .error e := by
  unfold factorize factorizeWith
  simp only [bind, Except.bind, h]

end

/-- the command line writes result files only after the factorization returned (multitensor.cpp:263-273
comes after the call): whenever option parsing, a reader, the dispatch or the library's validation fails,
`cliMain` yields an error and no file.  Tie: `clirun` correspondence of files and exit status with the
real binary. -/
theorem cli_files_only_after_success (argv : List String) (adj : String) (aff : Option String) (fs : Cli.Files)
    (h : Cli.cliMain argv adj aff = .ok fs) :
    fs = [] ∨ ∃ (o : Cli.Opts) (c : Cli.CallRecord) (inp : Input Nat Nat Float) (d : Nat → Float)
        (out : Output Nat Float) (nL : Nat) (seed : Int),
      Cli.parseArgs argv = .run o ∧ Cli.cliCall o adj aff = .ok c ∧ factorize inp d = .ok out ∧
      fs = Cli.resultFiles c.inst.directed c.K nL c.r seed out := by
  unfold Cli.cliMain at h
  generalize Cli.parseArgs argv = pa at h ⊢
  cases pa with
  | help => exact .inl (Except.ok.inj h).symm
  | version => exact .inl (Except.ok.inj h).symm
  | error e => cases h
  | run o =>
    dsimp only at h
    generalize hc : Cli.cliCall o adj aff = cc at h
    cases cc with
    | error e => cases h
    | ok c =>
      dsimp only at h
      by_cases hs : (!Cli.isNatTok c.seed) = true
      · rw [if_pos hs] at h; cases h
      rw [if_neg hs] at h
      generalize hf : factorize (β := Nat) (ω := Nat) (α := Float) _ _ = fo at h
      cases fo with
      | error e => cases h
      | ok out => exact .inr ⟨o, c, _, _, out, _, _, rfl, hc, hf, (Except.ok.inj h).symm⟩

theorem cli_error_no_files (argv : List String) (adj : String) (aff : Option String) (e : String)
    (h : Cli.cliMain argv adj aff = .error e) : ¬ ∃ fs, Cli.cliMain argv adj aff = .ok fs := by
  rintro ⟨fs, hfs⟩; rw [h] at hfs; cases hfs

example : validate ⟨false, 3, 3, 6, 8, 3, 6, 1, 1, 1⟩ = .ok (2, 2) :=
  (validate_iff _ _ _).2 (by unfold Accept affSize; simp)
example : validate ⟨true, 3, 3, 6, 6, 3, 9, 1, 1, 1⟩ = .ok (2, 3) :=
  (validate_iff _ _ _).2 (by unfold Accept affSize; simp)
example : ¬ ∃ L K, Accept ⟨false, 3, 3, 6, 9, 3, 6, 1, 1, 1⟩ L K := by
  rintro ⟨L, K, h⟩
  unfold Accept affSize at h
  simp only [Bool.false_eq_true, ↓reduceIte] at h
  obtain ⟨_, _, h3, _, h5, h6, _⟩ := h
  have hL : L = 2 := by omega
  subst hL
  have : K * K * 2 % 2 = 0 := Nat.mul_mod_left _ _
  omega

theorem check_step {ε ε' α : Type} {f : ε → ε'} {c : Prop} [Decidable c] {e : ε} {s : ε'} {x : Except ε' α}
    {y : Except ε α} (h1 : s = f e) (h2 : x = Except.mapError f y) :
    (if c then .error s else x) = Except.mapError f (if c then .error e else y) := by
  subst h1 h2; split <;> rfl

theorem mapError_error {ε ε' α : Type} (f : ε → ε') (e : ε) :
    Except.mapError f (Except.error e : Except ε α) = .error (f e) := rfl

theorem mapError_ok {ε ε' α : Type} (f : ε → ε') (a : α) :
    Except.mapError f (Except.ok a : Except ε α) = .ok a := rfl

theorem mapError_eq_ok_iff {ε ε' α : Type} (f : ε → ε') {x : Except ε α} {a : α} :
    Except.mapError f x = .ok a ↔ x = .ok a := by
  cases x with
  | error e => rw [mapError_error]; exact ⟨nofun, nofun⟩
  | ok b => rw [mapError_ok, Except.ok.injEq, Except.ok.injEq]

/-- the checks of `multitensor_factorization`, as they stand in main.hpp (`Gen.validateCode`, regenerated
statement by statement), are the model's `validate`: same order, same conditions, same inferred `(L, K)`,
and each error carries the message the code throws -/
theorem validateCode_eq (sh : Shapes) :
    Gen.validateCode sh.assort sh.nStarts sh.nEnds sh.nWeights sh.nAffinity sh.nDistinct sh.uSize sh.r sh.maxIt sh.nConv
      = (validate sh).mapError Err.message := by
  unfold Gen.validateCode validate
  cases sh.assort <;> (iterate 11 refine check_step rfl ?_) <;> rfl

theorem validateCode_iff (sh : Shapes) (L K : Nat) :
    Gen.validateCode sh.assort sh.nStarts sh.nEnds sh.nWeights sh.nAffinity sh.nDistinct sh.uSize sh.r sh.maxIt sh.nConv
      = .ok (L, K) ↔ Accept sh L K := by
  rw [validateCode_eq, mapError_eq_ok_iff]
  exact validate_iff sh L K

/-- the statements of `multitensor_factorization` before its last check (regenerated list, program order) -/
def beforeLastCheck (ev : List (String × String × List String)) : List (String × String × List String) :=
  (ev.reverse.dropWhile fun e => e.1 != "check").reverse

/-- no output argument is mentioned before the last check (other than through `.size()`): whatever is
rejected is rejected before `labels`, `u`, `v` or `affinity` can have been modified -/
theorem outputs_untouched_before_last_check :
    (beforeLastCheck Gen.mainEvents).all (fun e => e.2.2.isEmpty) = true := by decide

/-- all eleven checks are there, and nothing can throw between them but the checks themselves (every other
statement before the last check is a declaration of a size) -/
theorem checks_documented :
    ((beforeLastCheck Gen.mainEvents).filter fun e => e.1 == "check").length = 11 ∧
    (beforeLastCheck Gen.mainEvents).all (fun e => e.1 == "check" || e.1 == "decl" || e.1 == "constexpr") = true := by
  decide

/-- the statements that mention an output argument, in program order: all after the checks -/
theorem outputs_written_after_run :
    ((Gen.mainEvents.filter fun e => !e.2.2.isEmpty).map fun e => e.2.1) =
      ["affinity_tw(nof_groups,nof_layers,affinity);",
       "utils::Reportresults=solver.run<affinity_init_t>(*u_list,*v_list,A,u,v,w,random_generator);",
       "A.extract_vertices_labels(labels);", "affinity=w.get_data();"] := rfl

/-- `utils::get_num_vertices` as it stands in utils.hpp: the size of the set of all source and target labels —
what the model's `numVertices` states -/
theorem get_num_vertices_documented :
    Gen.getNumVerticesText = "std::set<vertex_t>set_e_in(edges_start.begin(),edges_start.end());std::set<vertex_t>set_e_out(edges_end.begin(),edges_end.end());std::set<vertex_t>set_e;std::merge(set_e_in.begin(),set_e_in.end(),set_e_out.begin(),set_e_out.end(),std::inserter(set_e,set_e.begin()));returnset_e.size();" := rfl

end MTProps.C15
