/-
C04 — the best realization is what is returned and reported.
Statements are about the model's `runAll` (the `for` over realizations of `Solver::run`,
solver.hpp:609-710, with `Report::max_L2`, utils.hpp:55-66), over any linearly ordered scalar type.
`outcomeOf i` is the i-th realization of the call (its start is determined by the stream position
reached, see C17); nothing else is carried from one realization to the next.
Tie to the code: every weak ordering of up to 4 (5) realizations scripted through the
`likelihood_computed` hook on the real selection code, plus real runs (`run` correspondence).
-/
import MT.Generated.UtilsCode
import MTProofs.Select

namespace MTProps.C04
open MT MTProofs

section
variable {α : Type} [LinearOrder α] [Add α] [Sub α] [Mul α] [Div α] [MTExtra α]
variable (assort : Bool) (ik : InitKind) (K N : Nat) (nv : NetView) (maxIt nConv : Nat)
  (evalL : Nat → Nat → State α → α) (userW : Tens α) (d : Nat → α) (prior : State α)

local notation "O" => outcomeOf assort ik K N nv maxIt nConv evalL userW d
local notation "RUN" r => runAll assort ik K N nv r maxIt nConv evalL userW d prior

theorem report_lists_all (r : Nat) :
    (RUN r).report.L2s = (List.range r).map (fun i => (O i).L2) ∧
    (RUN r).report.iters = (List.range r).map (fun i => (O i).iters) ∧
    (RUN r).report.reasons = (List.range r).map (fun i => (O i).reason) :=
  (runAll_report assort ik K N nv maxIt nConv evalL userW d prior r).2

/-- the two runs share the stream `d`, that is, the seed -/
theorem report_prefix {r' r : Nat} (h : r' ≤ r) :
    (RUN r').report.L2s = (RUN r).report.L2s.take r' ∧
    (RUN r').report.iters = (RUN r).report.iters.take r' ∧
    (RUN r').report.reasons = (RUN r).report.reasons.take r' := by
  obtain ⟨a1, a2, a3⟩ := report_lists_all assort ik K N nv maxIt nConv evalL userW d prior r
  obtain ⟨b1, b2, b3⟩ := report_lists_all assort ik K N nv maxIt nConv evalL userW d prior r'
  have ht : (List.range r).take r' = List.range r' := by
    rw [List.take_range, Nat.min_eq_left h]
  rw [a1, a2, a3, b1, b2, b3, ← List.map_take, ← List.map_take, ← List.map_take, ht]
  exact ⟨rfl, rfl, rfl⟩

/-- the returned factors are the final factors of the realization whose likelihood is highest, the
earliest one on ties, and the report's maximum is that realization's likelihood.  `H` is needed: a
realization whose likelihood is `lowest()` or NaN is never adopted by the code. -/
theorem select_is_first_argmax (r : Nat) (hr : 1 ≤ r)
    (H : ∀ i, i < r → MTExtra.lowest < (O i).L2) :
    ∃ i, i < r ∧ (∀ j, j < r → (O j).L2 ≤ (O i).L2) ∧ (∀ j, j < i → (O j).L2 < (O i).L2) ∧
      (RUN r).best = adoptState nv prior (O i) ∧ maxL2 (RUN r).report.L2s = (O i).L2 := by
  obtain ⟨i, ⟨hi, hmax, hfirst⟩, ha, hm⟩ := lastAdopted_isFirstMax (fun i => (O i).L2) hr (H 0 hr)
  refine ⟨i, hi, hmax, hfirst, ?_, ?_⟩
  · rw [runAll_best, ha]; rfl
  · rw [(report_lists_all assort ik K N nv maxIt nConv evalL userW d prior r).1, hm]

theorem best_monotone_in_r {r' r : Nat} (hr' : 1 ≤ r') (h : r' ≤ r)
    (H : ∀ i, i < r → MTExtra.lowest < (O i).L2) :
    maxL2 (RUN r').report.L2s ≤ maxL2 (RUN r).report.L2s := by
  obtain ⟨i, ⟨hi, _, _⟩, _, hm⟩ := lastAdopted_isFirstMax (fun i => (O i).L2) hr' (H 0 (Nat.le_trans hr' h))
  obtain ⟨j, ⟨_, hmax, _⟩, _, hm'⟩ := lastAdopted_isFirstMax (fun i => (O i).L2) (Nat.le_trans hr' h) (H 0 (Nat.le_trans hr' h))
  rw [(report_lists_all assort ik K N nv maxIt nConv evalL userW d prior r').1,
    (report_lists_all assort ik K N nv maxIt nConv evalL userW d prior r).1, hm, hm']
  exact hmax i (Nat.lt_of_lt_of_le hi h)

theorem v_untouched_undirected (hdir : nv.directed = false) (r : Nat) :
    (RUN r).best.v = prior.v :=
  runAll_v_undirected assort ik K N nv maxIt nConv evalL userW d hdir prior r

end

/-- an ad-hoc scalar structure on `Int` (`lowest()` = -1000) for the example below -/
local instance : MTExtra Int := ⟨0, fun x => x.natAbs, id, fun n => n, 0, 0, 0, -1000⟩

example : maxL2 ([3, 5, 5, 1] : List Int) = 5 ∧ maxL2 ([] : List Int) = -1000 := by decide

/-- `Report::max_L2()` as it stands in utils.hpp: `lowest()` for an empty report, otherwise the element
`std::max_element` points at (the first maximum) — what the model's `maxL2` states -/
theorem max_L2_documented :
    Gen.reportMaxL2Text = "if(vec_L2.size()==0){returnstd::numeric_limits<double>::lowest();}else{autoi=std::max_element(vec_L2.begin(),vec_L2.end());returnvec_L2[std::distance(vec_L2.begin(),i)];}" := rfl

end MTProps.C04
