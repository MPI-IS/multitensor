/-
Code tie (initialisers) — the loop nests of initialization.hpp, translated from the source on every run
(`MT/Generated/InitCode.lean`; a call of the generator inside a statement becomes the draw `d s.pos` followed
by `pos := pos + 1`), compute the model's closed forms `initRows`, `initAffFromInitial`, `initAffRandom` — the
functions about which C17 (each draw consumed exactly once, symmetric pairs share a draw, ranges, zero rows) and
C14 (file value + 0.1 × fresh draw per entry) are proved — and consume exactly the number of draws the model says.
Every scalar type.  Pinned literally: the statements before the loops (`T = tensor_init` after the one-time
`tensor_init = Tinit`; the `dims()` reads) and the member `tensor_t tensor_init{}`.
-/
import MTProofs.CodeRefineInit
import MTProofs.Init
import MT.Graph
import MTProofs.Graph

namespace MTProps.CodeInit
open MT MT.Gen MT.CodeRefine MTProofs

section
variable {α : Type} [Add α] [Sub α] [Mul α] [Div α] [LT α] [DecidableLT α] [MTExtra α]

/-- the vertex lists the solver hands to `init_tensor_rows_random` have no repetitions -/
theorem uList_nodup {β : Type} (n : Net β) : n.uList.Nodup := (listed_nodup n).1

theorem vList_nodup {β : Type} (n : Net β) : n.vList.Nodup := (listed_nodup n).2

/-- `init_tensor_rows_random(elements, mat, rng)` -/
theorem code_initRows (N K : Nat) (elems : List Nat) (hl : elems.Nodup) (prev : Nat → Nat → α) (d : Nat → α) (p0 : Nat)
    {j k : Nat} (hj : j < N) (hk : k < K) :
    (initRowsCode K elems d ⟨prev, p0⟩).mat j k = (initRows N K elems prev (fun t => d (p0 + t))).1.get j k 0 ∧
    (initRowsCode K elems d ⟨prev, p0⟩).pos = p0 + (initRows N K elems prev (fun t => d (p0 + t))).2 := by
  have h := initRowsCode_refines K elems hl d
  refine ⟨(h.entry ⟨prev, p0⟩ (j, k)).trans ?_, h.pos _⟩
  rw [initRows_get hj hk]
  simp only [hk, true_and]
  rfl

theorem code_initRows_other (K : Nat) (elems : List Nat) (hl : elems.Nodup) (prev : Nat → Nat → α) (d : Nat → α) (p0 : Nat)
    {j k : Nat} (h : ¬ (k < K ∧ j ∈ elems)) :
    (initRowsCode K elems d ⟨prev, p0⟩).mat j k = prev j k :=
  ((initRowsCode_refines K elems hl d).entry ⟨prev, p0⟩ (j, k)).trans (if_neg h)

/-- `init_symmetric_tensor_from_initial` (general) -/
theorem code_initFromInitial_general (init : Tens α) (d : Nat → α) (p0 : Nat) (T2 : Nat → Nat → α)
    {k q a : Nat} (hk : k < init.R) (hq : q < init.R) (ha : a < init.T) :
    let s := initFromInitialCode false init.R init.T d ⟨T2, fun k q a => init.get k q a, p0⟩
    s.T3 k q a = (initAffFromInitial false init (fun t => d (p0 + t))).1.get k q a ∧
    s.pos = p0 + (initAffFromInitial false init (fun t => d (p0 + t))).2 := by
  have h := initFromInitialCode_refines_general init.R init.T d
  refine ⟨?_, h.pos _⟩
  rw [initAffFromInitial_get_general hk hq ha]
  exact (h.entry _ (k, q, a)).trans (if_pos ⟨hk, hq, ha⟩)

/-- `init_symmetric_tensor_from_initial` (assortative) -/
theorem code_initFromInitial_assortative (init : Tens α) (d : Nat → α) (p0 : Nat) (T3 : Nat → Nat → Nat → α)
    {k a : Nat} (hk : k < init.R) (ha : a < init.T) :
    let s := initFromInitialCode true init.R init.T d ⟨fun k a => init.get k 0 a, T3, p0⟩
    s.T2 k a = (initAffFromInitial true init (fun t => d (p0 + t))).1.get k 0 a ∧
    s.pos = p0 + (initAffFromInitial true init (fun t => d (p0 + t))).2 := by
  have h := initFromInitialCode_refines_assortative init.R init.T d
  refine ⟨?_, h.pos _⟩
  rw [initAffFromInitial_get_assort hk ha]
  exact (h.entry _ (k, a)).trans (if_pos ⟨hk, ha⟩)

/-- `init_symmetric_tensor_random` (general): mirrored upper triangle, `L·K(K+1)/2` draws -/
theorem code_initRandom_general (K L : Nat) (d : Nat → α) (p0 : Nat) (T2 : Nat → Nat → α) (T3 : Nat → Nat → Nat → α)
    {i j a : Nat} (hi : i < K) (hj : j < K) (ha : a < L) :
    let s := initRandomCode false K K L d ⟨T2, T3, p0⟩
    s.T3 i j a = (initAffRandom false K L (fun t => d (p0 + t))).1.get i j a ∧
    s.pos = p0 + (initAffRandom false K L (fun t => d (p0 + t))).2 := by
  have h := initRandomCode_refines_general K L d
  refine ⟨?_, h.pos _⟩
  rw [initAffRandom_get_general hi hj ha]
  exact (h.entry _ (i, j, a)).trans (if_pos ⟨hi, hj, ha⟩)

/-- `init_symmetric_tensor_random` (assortative): one draw per diagonal entry -/
theorem code_initRandom_assortative (K L ncols : Nat) (d : Nat → α) (p0 : Nat) (T2 : Nat → Nat → α) (T3 : Nat → Nat → Nat → α)
    {i a : Nat} (hi : i < K) (ha : a < L) :
    let s := initRandomCode true K ncols L d ⟨T2, T3, p0⟩
    s.T2 i a = (initAffRandom true K L (fun t => d (p0 + t))).1.get i 0 a ∧
    s.pos = p0 + (initAffRandom true K L (fun t => d (p0 + t))).2 := by
  have h := initRandomCode_refines_assortative K L d ncols
  refine ⟨?_, h.pos _⟩
  rw [initAffRandom_get_assort hi ha]
  exact (h.entry _ (i, a)).trans (if_pos ⟨hi, ha⟩)

end

/-- three draws into a 2×2 layer: the off-diagonal pair shares the second -/
example :
    let s := initRandomCode (α := Float) false 2 2 1 (fun t => if t = 0 then 0.5 else if t = 1 then 0.25 else 0.125)
      ⟨fun _ _ => 0, fun _ _ _ => 0, 0⟩
    s.T3 0 0 0 = 0.5 ∧ s.T3 0 1 0 = 0.25 ∧ s.T3 1 0 0 = 0.25 ∧ s.T3 1 1 0 = 0.125 ∧ s.pos = 3 := by
  decide +kernel

end MTProps.CodeInit
