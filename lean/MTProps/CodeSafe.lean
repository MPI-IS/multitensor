/-
Index safety of the translated loop nests (C16): every container access `M(i,k)` / `w(k,q,a)` that the translator
recorded in the loop nests of `update_vertices`, `update_affinity` and `calculate_likelyhood` — as they stand in
solver.hpp on this run — has each index below the corresponding dimension of the container, under the
conditions of the loops around it, provided the vertex lists and the adjacency lists handed to the solver hold
valid row indices (which `MTProps.C16.listed_vertices_in_bounds` and `built_out_lt` / `built_inn_lt` below prove
of the network the library builds).  The propositions `…_safe` are generated next to the code (MT/Generated/SolverCode.lean);
branch conditions are ignored there, so the statement covers both the assortative and the general branch.  An
off-by-one loop bound, swapped indices or a container of the wrong shape in one of these loops makes the generated
proposition unprovable.
-/
import MT.Generated.SolverCode
import MT.Generated.InitCode
import MTProps.C16

namespace MTProps.CodeSafe
open MT MT.Gen

/-- closes one generated conjunct: each `index < dimension` is a loop condition or follows from the list /
adjacency assumptions -/
macro "safe_conjunct" hl1:ident hl2:ident he:ident : tactic =>
  `(tactic| (intros
             repeat' apply And.intro
             all_goals first
               | assumption
               | exact $hl1 _ ‹_›
               | exact $hl2 _ ‹_›
               | exact $he _ ‹_› _ _ ‹_›))

/-- `update_vertices`: the three membership matrices are `N × K`, the affinity tensor `K (× K) × L` -/
theorem updateVerticesCode_safe_holds (K L N : Nat) (numList denList : List Nat) (edges : Nat → Nat → List Nat)
    (hn : ∀ i, i ∈ numList → i < N) (hd : ∀ i, i ∈ denList → i < N)
    (he : ∀ a, a < L → ∀ i j, j ∈ edges a i → j < N) :
    updateVerticesCode_safe K L N numList denList edges := by
  unfold updateVerticesCode_safe
  repeat' apply And.intro
  all_goals safe_conjunct hn hd he

theorem updateAffinityCode_safe_holds (K L N : Nat) (uList vList : List Nat) (out : Nat → Nat → List Nat)
    (hu : ∀ i, i ∈ uList → i < N) (hv : ∀ i, i ∈ vList → i < N)
    (he : ∀ a, a < L → ∀ i j, j ∈ out a i → j < N) :
    updateAffinityCode_safe K L N uList vList out := by
  unfold updateAffinityCode_safe
  repeat' apply And.intro
  all_goals safe_conjunct hu hv he

/-- no hypothesis: the loops run over all vertex pairs, the adjacency lists are only counted -/
theorem likelihoodCode_safe_holds (K L N : Nat) (out : Nat → Nat → List Nat) :
    likelihoodCode_safe K L N out := by
  unfold likelihoodCode_safe
  repeat' apply And.intro
  all_goals (intros; repeat' apply And.intro) <;> assumption

/-- `init_symmetric_tensor_random` on a square tensor (`SymmetricTensor(K, L)` is `K × K × L`): the mirrored write
`T(j,i,α)` of the triangular loop stays inside -/
theorem initRandomCode_safe_holds (K L : Nat) : initRandomCode_safe K K L := by
  unfold initRandomCode_safe
  repeat' apply And.intro
  all_goals (intros; repeat' apply And.intro) <;> omega

theorem initFromInitialCode_safe_holds (K L : Nat) : initFromInitialCode_safe K L := by
  unfold initFromInitialCode_safe
  repeat' apply And.intro
  all_goals (intros; repeat' apply And.intro) <;> assumption

/-- the `assert(j < std::get<0>(dims))` of initialization.hpp cannot fire when the listed vertices are rows -/
theorem initRowsCode_safe_holds (N K : Nat) (elements : List Nat) (h : ∀ j, j ∈ elements → j < N) :
    initRowsCode_safe N K elements := by
  unfold initRowsCode_safe
  intro k hk j hj
  exact ⟨h j hj, hk⟩

section
variable {β ω : Type} [DecidableEq β] [Weight ω] (directed : Bool) (starts ends : List β) (weights : List ω)

theorem built_out_lt (a : Nat) (ha : a < (build directed starts ends weights).view.nL) (i j : Nat)
    (hj : j ∈ (build directed starts ends weights).view.out a i) : j < (build directed starts ends weights).nV := by
  rw [MTProofs.nV_eq_of_layer (n := build directed starts ends weights) ha]
  exact MTProofs.view_out_lt (MTProofs.build_recs_lt directed starts ends weights) a i j hj

theorem built_inn_lt (a : Nat) (ha : a < (build directed starts ends weights).view.nL) (i j : Nat)
    (hj : j ∈ (build directed starts ends weights).view.inn a i) : j < (build directed starts ends weights).nV := by
  rw [MTProofs.nV_eq_of_layer (n := build directed starts ends weights) ha]
  exact MTProofs.view_inn_lt (MTProofs.build_recs_lt directed starts ends weights) a i j hj

/-- no loop nest of the numeric core leaves its containers, whatever the edge list: the out-membership update, the
in-membership update (in-edge proxy, lists exchanged), the affinity update, the likelihood evaluation and the
random start of the two membership matrices -/
theorem code_safe_on_built_network (K : Nat) :
    let net := build directed starts ends weights
    updateVerticesCode_safe K net.view.nL net.nV net.view.uList net.view.vList net.view.out ∧
    updateVerticesCode_safe K net.view.nL net.nV net.view.vList net.view.uList net.view.inn ∧
    updateAffinityCode_safe K net.view.nL net.nV net.view.uList net.view.vList net.view.out ∧
    likelihoodCode_safe K net.view.nL net.nV net.view.out ∧
    initRowsCode_safe net.nV K net.view.uList ∧ initRowsCode_safe net.nV K net.view.vList := by
  have hl := C16.listed_vertices_in_bounds directed starts ends weights
  exact ⟨updateVerticesCode_safe_holds K _ _ _ _ _ hl.1 hl.2 (built_out_lt directed starts ends weights),
         updateVerticesCode_safe_holds K _ _ _ _ _ hl.2 hl.1 (built_inn_lt directed starts ends weights),
         updateAffinityCode_safe_holds K _ _ _ _ _ hl.1 hl.2 (built_out_lt directed starts ends weights),
         likelihoodCode_safe_holds K _ _ _,
         initRowsCode_safe_holds _ K _ hl.1, initRowsCode_safe_holds _ K _ hl.2⟩

end

end MTProps.CodeSafe
