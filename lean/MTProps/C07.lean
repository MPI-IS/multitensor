/-
C07 — determinism and purity: results depend only on the declared inputs.
The model is a Lean function of exactly the declared inputs; the prior contents of the output
containers are an *explicit* argument (`prior`).  Theorems (any scalar type): the report does not
depend on `prior` at all; as soon as one realization is adopted, neither do the returned factors
(in undirected mode the in-membership container is returned as it was, C11).  "Same call, same
result, in any process, after any other calls" is, for the model, the statement that `runAll` has no
other argument; for the code it is the history correspondence (implementation-vs-implementation bit
identity under poisoned outputs, interleaved calls, fresh processes).
-/
import MTProofs.Select
import MT.Generated.MainCode

namespace MTProps.C07
open MT MTProofs

variable {α : Type} [Add α] [Sub α] [Mul α] [Div α] [LT α] [DecidableLT α] [MTExtra α]
variable (assort : Bool) (ik : InitKind) (K N : Nat) (nv : NetView) (maxIt nConv : Nat)
  (evalL : Nat → Nat → State α → α) (userW : Tens α) (d : Nat → α)

local notation "RUN" r "," p => runAll assort ik K N nv r maxIt nConv evalL userW d p

theorem report_indep_of_prior (prior prior' : State α) (r : Nat) :
    (RUN r, prior).report.L2s = (RUN r, prior').report.L2s ∧
    (RUN r, prior).report.iters = (RUN r, prior').report.iters ∧
    (RUN r, prior).report.reasons = (RUN r, prior').report.reasons ∧
    (RUN r, prior).pos = (RUN r, prior').pos := by
  obtain ⟨a1, a2, a3, a4⟩ := runAll_report assort ik K N nv maxIt nConv evalL userW d prior r
  obtain ⟨b1, b2, b3, b4⟩ := runAll_report assort ik K N nv maxIt nConv evalL userW d prior' r
  exact ⟨by rw [a2, b2], by rw [a3, b3], by rw [a4, b4], by rw [a1, b1]⟩

/-- the factors agree up to the untouched in-membership container of an undirected run -/
def SameFactors (b b' : State α) : Prop :=
  b.u = b'.u ∧ b.w = b'.w ∧ (nv.directed = true → b.v = b'.v)

theorem best_indep_of_prior (prior prior' : State α) (r : Nat) :
    ((RUN r, prior).best = prior ∧ (RUN r, prior').best = prior') ∨
      SameFactors nv (RUN r, prior).best (RUN r, prior').best := by
  rw [runAll_best, runAll_best]
  cases lastAdopted (fun i => (outcomeOf assort ik K N nv maxIt nConv evalL userW d i).L2) r with
  | none => exact Or.inl ⟨rfl, rfl⟩
  | some i =>
    right
    unfold SameFactors
    simp only [Option.elim, adoptState]
    split
    · exact ⟨rfl, rfl, fun _ => rfl⟩
    · next hd => exact ⟨rfl, rfl, fun h => absurd h hd⟩

/-- once a realization has been adopted (the first one is whenever its likelihood exceeds `lowest()`:
`first_adopted`), the returned factors are the same for any prior contents of the output containers -/
theorem run_indep_of_prior_outputs (prior prior' : State α) (r : Nat)
    (hadopt : (RUN r, prior).best ≠ prior ∨ (RUN r, prior').best ≠ prior') :
    SameFactors nv (RUN r, prior).best (RUN r, prior').best := by
  rcases best_indep_of_prior assort ik K N nv maxIt nConv evalL userW d prior prior' r with h | h
  · rcases hadopt with h' | h'
    · exact absurd h.1 h'
    · exact absurd h.2 h'
  · exact h

theorem first_adopted (prior : State α)
    (h : MTExtra.lowest < (outcomeOf assort ik K N nv maxIt nConv evalL userW d 0).L2) :
    (RUN 1, prior).best = adoptState nv prior (outcomeOf assort ik K N nv maxIt nConv evalL userW d 0) := by
  rw [runAll_succ, runOne_eq]
  exact if_pos h

theorem adopted_indep_of_prior (prior prior' : State α) (r : Nat) :
    (RUN r, prior).adopted = (RUN r, prior').adopted := by
  rw [runAll_eq, runAll_eq]

/-- the report's seed is the generator's seed: the only statement of `multitensor_factorization` that
assigns it (main.hpp, regenerated on every run) -/
theorem seed_echo_documented :
    Gen.reportSeedAssignments = ["results.seed=random_generator.seed;"] := rfl

end MTProps.C07
