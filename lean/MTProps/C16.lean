/-
C16 — memory safety: *partial by nature*.  A functional model has no heap: use-after-free, leaks,
signed overflow and reads of unset locals cannot be expressed in it.  What is logic is proved here:
every index the code forms is in range (so the `assert`s of tensor.hpp / initialization.hpp / graph.hpp
cannot fire and no access is out of bounds), for all sizes.  The runtime part is covered by running every
correspondence of every property under ASan+UBSan+LSan with assertions and `_GLIBCXX_ASSERTIONS`, by a
file-mutation stream through the real readers, and by valgrind memcheck (uninitialised values).
-/
import MTProps.C18
import MTProps.C14
import MTProps.C08
import MTProofs.Graph

namespace MTProps.C16
open MT MTProofs

/-- tensor.hpp:58-67 — the asserts hold and `data[index]` is in bounds -/
theorem tensor_index_in_bounds {R C T i j a : Nat} (hi : i < R) (hj : j < C) (ha : a < T) :
    Gen.getIndexSrc R C T i j a < R * C * T := by
  rw [C18.index_eq_spec]; exact C18.index_lt_size hi hj ha

section
variable {β ω : Type} [DecidableEq β] [Weight ω] (directed : Bool) (starts ends : List β) (weights : List ω)

theorem record_vertices_exist :
    ∀ r ∈ (build directed starts ends weights).recs,
      r.src < (build directed starts ends weights).labels.length ∧
      r.dst < (build directed starts ends weights).labels.length :=
  build_recs_lt directed starts ends weights

theorem adjacency_entries_in_bounds (a i : Nat) :
    ∀ j ∈ (build directed starts ends weights).view.out a i,
      j < (build directed starts ends weights).labels.length :=
  view_out_lt (build_recs_lt directed starts ends weights) a i

/-- initialization.hpp:174 `assert(j < std::get<0>(dims))` -/
theorem listed_vertices_in_bounds :
    (∀ i ∈ (build directed starts ends weights).uList, i < (build directed starts ends weights).nV) ∧
    (∀ j ∈ (build directed starts ends weights).vList, j < (build directed starts ends weights).nV) :=
  listed_lt _

/-- graph.hpp:195-205 — undirected: one shared vertex list -/
theorem undirected_lists_shared : (build false starts ends weights).vList = (build false starts ends weights).uList :=
  C08.targets_undirected _ rfl

end

/-- app_utils.cpp — `w[index] = value` is in bounds for every line that passed the reader's checks -/
theorem reader_writes_in_bounds (assort : Bool) {K L g layer : Nat} (hg : g < K) (hl : layer < L) :
    Gen.readerIdx assort K g layer < C14.vecSize assort K L :=
  C14.reader_writes_lt assort hg hl

theorem reader_rejects_before_writing (assort : Bool) (K size : Nat) (content : String) (e : Cli.AffErr)
    (h : Cli.checkRows assort K size ((Cli.fileLines content).filterMap Cli.affLine) = .error e) :
    Cli.readAffinity assort K size content = .error e := by
  unfold Cli.readAffinity
  simp only [h]

theorem writer_reads_in_bounds {K L k q a : Nat} (hk : k < K) (hq : q < K) (ha : a < L) :
    Gen.writerIdxGeneral K L k q a < K * K * L ∧ Gen.writerIdxAssort K L k a < K * 1 * L := by
  constructor
  · rw [C18.writer_position_general]; exact C18.index_lt_size hk hq ha
  · rw [C18.writer_position_assort]; exact C18.index_lt_size hk (by omega) ha

end MTProps.C16
