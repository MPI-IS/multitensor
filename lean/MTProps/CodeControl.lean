/-
Code tie (control) — the stopping logic of `Solver::loop`, translated from solver.hpp on every run
(tools/cxx2lean.py: everything after the three update calls, statement by statement), is the model's
`ctlStep`, on which the stopping rule (C05) and the cadence of the reported likelihood (C06) are proved.
Holds for every scalar type.  The update calls before it are pinned literally (and as `Gen.loopSteps`).
-/
import MTProofs.CodeRefineCtl

namespace MTProps.CodeControl
open MT MT.Gen MT.CodeRefine

section
variable {α : Type} [Add α] [Sub α] [Mul α] [Div α] [LT α] [DecidableLT α] [MTExtra α]

/-- one call of `Solver::loop` leaves `(iteration, coincide, L2)` and returns the reason exactly as the
model's `ctlStep` does -/
theorem code_ctlStep (lNew : α) (nConv maxIt : Nat) (c : Ctl α) (junk : α) (r0 : Nat) :
    let s := loopControlCode lNew nConv maxIt ⟨c.iteration, c.coincide, c.L2, junk, r0⟩
    let m := ctlStep maxIt nConv c lNew
    s.iteration = m.1.iteration ∧ s.coincide = m.1.coincide ∧ s.L2 = m.1.L2 ∧ s.ret = m.2.code :=
  loopControlCode_refines lNew nConv maxIt c junk r0

theorem code_no_evaluation_between (lNew : α) (nConv maxIt : Nat) (c : Ctl α) (junk : α) (r0 : Nat)
    (h : c.iteration % 10 ≠ 0) :
    let s := loopControlCode lNew nConv maxIt ⟨c.iteration, c.coincide, c.L2, junk, r0⟩
    s.L2 = c.L2 ∧ s.coincide = c.coincide ∧ s.iteration = c.iteration + 1 := by
  obtain ⟨h1, h2, h3, _⟩ := loopControlCode_refines lNew nConv maxIt c junk r0
  refine ⟨?_, ?_, ?_⟩
  · rw [h3]; simp [ctlStep, h]
  · rw [h2]; simp [ctlStep, h]
  · rw [h1]; simp [ctlStep]

end

/-- the first sweep of a realization (counters 0, `L2 = lowest()`) with limit 1 returns MAX_ITER (1); a
repeated value with one required convergence returns CONVERGED (2) -/
example :
    (loopControlCode (α := Float) (-3.5) 10 1 ⟨0, 0, MTExtra.lowest, 0, 0⟩).ret = 1 ∧
    (loopControlCode (α := Float) (-3.5) 10 1 ⟨0, 0, MTExtra.lowest, 0, 0⟩).iteration = 1 ∧
    (loopControlCode (α := Float) (-3.5) 1 50 ⟨10, 0, -3.5, 0, 0⟩).ret = 2 := by
  decide +kernel

end MTProps.CodeControl
