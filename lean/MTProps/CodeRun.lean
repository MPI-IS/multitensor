/-
Code tie (realizations) — `Solver::run`, regenerated from solver.hpp on every run, is the model's `runAll`.

`MT/Generated/RunCode.lean` takes from the source *which statements `run` consists of, in which order and
inside which `for` / `while` / `if`*; what each statement means is the table of tools/gen_run_code.py, written
in terms of the model's functions for the callees (`initAff`, `initRows`, `loopStep`, `maxL2`, `Tens.zeros`),
whose own ties are separate.  A statement that is not in the table, a changed header, prologue or epilogue
is a lost anchor.  Proved here, for every scalar type, variant, initialiser kind, number of realizations and
(scriptable) likelihood evaluation: after `run` the caller's three containers hold the model's best factors,
the stream of draws has advanced as in the model and the report vectors are the model's report.  Hence what
C04 (first maximum, report, prefix), C07 (nothing carried between realizations but the best-so-far, the
report and the stream position), C14/C17 (each realization starts from the next draws: affinity, then
in-membership rows, then out-membership rows, on zeroed work matrices) and C03 prove about `runAll` is
proved about the statement sequence of `Solver::run` as it stands in the source.
-/
import MTProofs.CodeRefineRun
import MT.Generated.UtilsCode

namespace MTProps.CodeRun
open MT MT.Gen MT.CodeRefine

section
variable {α : Type} [Add α] [Sub α] [Mul α] [Div α] [LT α] [DecidableLT α] [MTExtra α]
variable (directed assort : Bool) (ik : InitKind) (K N : Nat) (nv : NetView) (maxIt nConv : Nat)
  (userW : Tens α) (d : Nat → α)

theorem stateLik_ignores_v (hdir : nv.directed = false) (s : State α) (v' : Tens α) :
    stateLik assort K nv { s with v := v' } = stateLik assort K nv s := by
  unfold stateLik
  simp only [hdir, Bool.false_eq_true, if_false]

/-- `evalL` may be scripted; `hE`: an undirected evaluation does not depend on the unused in-membership slot,
which holds for the real one (`code_runAll_real`) -/
theorem code_runAll (evalL : Nat → Nat → State α → α) (hd : nv.directed = directed)
    (hE : directed = false → ∀ i it (s : State α) (v' : Tens α), evalL i it { s with v := v' } = evalL i it s)
    (r : Nat) (prior : State α) (c : RunLoc α)
    (hc : c.u = prior.u ∧ c.v = prior.v ∧ c.w = prior.w ∧ c.pos = 0 ∧ c.vec_iter = [] ∧
      c.vec_term_reason = [] ∧ c.vec_L2 = []) :
    let s := runCode directed assort ik K N nv maxIt nConv evalL userW d r c
    let acc := runAll assort ik K N nv r maxIt nConv evalL userW d prior
    s.u = acc.best.u ∧ s.v = acc.best.v ∧ s.w = acc.best.w ∧ s.pos = acc.pos ∧
    s.vec_iter = acc.report.iters ∧ s.vec_term_reason = acc.report.reasons.map Reason.code ∧
    s.vec_L2 = acc.report.L2s :=
  runCode_refines directed assort ik K N nv maxIt nConv evalL userW d hd hE r prior c hc

/-- the instance `multitensor_factorization` uses: the likelihood of the state itself -/
theorem code_runAll_real (hd : nv.directed = directed) (r : Nat) (prior : State α) (c : RunLoc α)
    (hc : c.u = prior.u ∧ c.v = prior.v ∧ c.w = prior.w ∧ c.pos = 0 ∧ c.vec_iter = [] ∧
      c.vec_term_reason = [] ∧ c.vec_L2 = []) :
    let ev : Nat → Nat → State α → α := fun _ _ s => stateLik assort K nv s
    let s := runCode directed assort ik K N nv maxIt nConv ev userW d r c
    let acc := runAll assort ik K N nv r maxIt nConv ev userW d prior
    s.u = acc.best.u ∧ s.v = acc.best.v ∧ s.w = acc.best.w ∧ s.pos = acc.pos ∧
    s.vec_iter = acc.report.iters ∧ s.vec_term_reason = acc.report.reasons.map Reason.code ∧
    s.vec_L2 = acc.report.L2s :=
  runCode_refines directed assort ik K N nv maxIt nConv _ userW d hd
    (fun hf i it s v' => stateLik_ignores_v assort K nv (by rw [hd, hf]) s v') r prior c hc

/-- the validation excludes zero realizations; here the loop simply does not run -/
theorem code_run_zero (evalL : Nat → Nat → State α → α) (c : RunLoc α) :
    runCode directed assort ik K N nv maxIt nConv evalL userW d 0 c = c := rfl

end

/-! `runCode` threads one stream position through all realizations of a call (`Solver::run` takes the generator by
reference), and `factorizeWith` starts every call at position 0 of the stream its seed determines (the entry point
takes the generator BY VALUE: the call works on a copy, the caller's object is left as it was, so two calls handed
the same object see the same stream — the prefix statement of C04 and the repeatability of C07 across calls that
share a generator).  Both facts are read off the parameter lists, pinned here as they stand in the source. -/

/-- `multitensor_factorization(…, random_t random_generator = random_t{})`: the generator is a by-value parameter -/
theorem entry_point_parameters_documented :
    Gen.mainParametersText = "conststd::vector<vertex_t>&edges_start,conststd::vector<vertex_t>&edges_end,conststd::vector<weight_t>&edges_weight,constsize_t&nof_realizations,constsize_t&max_nof_iterations,constsize_t&nof_convergences,std::vector<vertex_t>&labels,tensor::Matrix<double>&u,tensor::Matrix<double>&v,std::vector<double>&affinity,random_trandom_generator=random_t{}" := rfl

/-- `Solver::run(…, random_t &random_generator, affinity_init_t w_init_obj = affinity_init_t{})`: one stream for the
realizations of a call; the affinity initialiser object (with its cached copy of the caller's tensor) is a by-value
parameter, fresh in every call -/
theorem run_parameters_documented :
    Gen.runParametersText = "conststd::vector<size_t>&u_list,conststd::vector<size_t>&v_list,constnetwork_t&A,tensor::Matrix<double>&u,tensor::Matrix<double>&v,affinity_t&w,random_t&random_generator,affinity_init_tw_init_obj=affinity_init_t{}" := rfl

end MTProps.CodeRun
