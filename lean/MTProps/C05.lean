/-
C05 — stopping rule.  Statements are about the model's `runLoop` (solver.hpp:644-680: the counters, then the `while`
around `loop`, whose control part is solver.hpp:500-536), for every scalar type, every `max_nof_iterations ≥ 1`,
`nof_convergences ≥ 1` and every sequence of evaluation outcomes.  Tie to the code: scripted pass/fail words through
the `likelihood_computed` hook on the real loop (`run` correspondence).
-/
import MTProofs.Control
import MT.Generated.Control

namespace MTProps.C05
open MT MTProofs

/-- the documented condition: `nConv` consecutive passing evaluations, the last one being
evaluation `m` (evaluations are numbered 0,1,2,… and happen after sweeps 1, 11, 21, …) -/
def convAt (nConv : Nat) (o : Nat → Bool) (m : Nat) : Prop :=
  nConv ≤ m + 1 ∧ ∀ t, t < nConv → o (m - t) = true

theorem convAt_iff_streak (nConv : Nat) (o : Nat → Bool) (m : Nat) :
    convAt nConv o m ↔ nConv ≤ streak o (m + 1) := by
  unfold convAt
  rw [le_streak_iff]
  simp only [Nat.add_sub_cancel]

section
variable {α : Type} [Add α] [Sub α] [Mul α] [Div α] [LT α] [DecidableLT α] [MTExtra α]
variable (assort : Bool) (K : Nat) (nv : NetView) (maxIt nConv : Nat)
  (evalL : Nat → State α → α) (s0 : State α)

/-- outcome of the m-th evaluation of the realization started at `s0`:
`|L_old - L|/|L_old| < 1e-4` with `L_old = lowest()` for the first one -/
abbrev outcome (m : Nat) : Bool := passSeq assort K nv evalL s0 m

abbrev realization := runLoop assort K nv maxIt nConv evalL maxIt s0 ctlInit

/-- if evaluation `m` is the first to complete `nConv` consecutive passes and sweep `10m+1` is within the
budget, the realization stops exactly then, reports CONVERGED and `10m+1` iterations, and its factors are
those after `10m+1` sweeps (`hle` is `≤`: CONVERGED wins when `10m+1 = max_nof_iterations`) -/
theorem stop_rule_converged (hC : 1 ≤ nConv) (m : Nat)
    (hm : convAt nConv (outcome assort K nv evalL s0) m)
    (hfirst : ∀ m', m' < m → ¬ convAt nConv (outcome assort K nv evalL s0) m')
    (hle : 10 * m + 1 ≤ maxIt) :
    let r := realization assort K nv maxIt nConv evalL s0
    r.2.1.iteration = 10 * m + 1 ∧ r.2.2 = Reason.converged ∧
      r.1 = traj assort K nv s0 (10 * m + 1) := by
  have h := runLoop_start assort K nv maxIt nConv evalL s0
  simp only [convAt_iff_streak, Nat.not_le] at hm hfirst
  rw [runB_converged _ hC m hm hfirst hle] at h
  exact ⟨h.1, h.2.1, h.2.2.1.trans (congrArg _ h.1)⟩

/-- if no evaluation within the budget completes `nConv` consecutive passes (a failing evaluation
resets the count), exactly `max_nof_iterations` sweeps are applied and MAX_ITER is reported -/
theorem stop_rule_maxiter (hM : 1 ≤ maxIt) (hC : 1 ≤ nConv)
    (hnone : ∀ m, 10 * m + 1 ≤ maxIt → ¬ convAt nConv (outcome assort K nv evalL s0) m) :
    let r := realization assort K nv maxIt nConv evalL s0
    r.2.1.iteration = maxIt ∧ r.2.2 = Reason.maxIter ∧ r.1 = traj assort K nv s0 maxIt := by
  have h := runLoop_start assort K nv maxIt nConv evalL s0
  simp only [convAt_iff_streak, Nat.not_le] at hnone
  rw [runB_maxiter _ hM hnone] at h
  exact ⟨h.1, h.2.1, h.2.2.1.trans (congrArg _ h.1)⟩

/-- the loop terminates within the fuel `max_nof_iterations` with a proper reason, and the reported
count is the number of sweeps actually applied -/
theorem iterations_bounds (hM : 1 ≤ maxIt) (hC : 1 ≤ nConv) :
    let r := realization assort K nv maxIt nConv evalL s0
    r.2.2 ≠ Reason.noTermination ∧ 1 ≤ r.2.1.iteration ∧ r.2.1.iteration ≤ maxIt ∧
      r.1 = traj assort K nv s0 r.2.1.iteration := by
  obtain ⟨n, h1, h2, h3, hb⟩ := runB_stops (nConv := nConv) (passSeq assort K nv evalL s0) hM
  have h := runLoop_start assort K nv maxIt nConv evalL s0
  rw [hb] at h
  exact ⟨h.2.1 ▸ h3, h.1 ▸ h1, h.1 ▸ h2, h.2.2.1⟩

end

/-! ### the text of `Solver::loop` (regenerated from solver.hpp on every run) is what the model encodes -/

/-- evaluations happen in the sweeps with `iteration % 10 == 0`, i.e. after the 1st, 11th, 21st, … -/
theorem eval_period_documented : Gen.evalPeriod = 10 := rfl

theorem termination_order_documented :
    Gen.terminationOrder = [("coincide==num_conv()", "CONVERGED"), ("iteration==max_iter()", "MAX_ITER")] := rfl

theorem pass_test_documented :
    Gen.passTest = "std::abs(L2_old-L2)/std::abs(L2_old)<EPS_PRECISION_LIKELIHOOD" := rfl

/-- `n_conv = 2`, outcomes F P P …: CONVERGED at evaluation 2, i.e. after sweep 21, when `max_it = 25`;
MAX_ITER when `max_it = 20` -/
example : runB 25 2 (fun m => decide (1 ≤ m)) 25 0 0 = (21, Reason.converged) := by decide
example : runB 20 2 (fun m => decide (1 ≤ m)) 20 0 0 = (20, Reason.maxIter) := by decide
example : convAt 2 (fun m => decide (1 ≤ m)) 2 ∧ ¬ convAt 2 (fun m => decide (1 ≤ m)) 1 := by
  rw [convAt_iff_streak, convAt_iff_streak]
  decide

end MTProps.C05
