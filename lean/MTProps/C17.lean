/-
C17 — initialisation contract: fresh, seeded, correctly ranged starts.
The generator is abstracted to an arbitrary stream `d : Nat → α` (nothing here depends on
Mersenne-Twister internals; the mt19937/uniform model of the driver is compared bit-exactly with
libstdc++ on every run).  Claims: realization `i` starts from the `i`-th consecutive segment of
the stream and reads nothing outside it; the positions used inside a segment are pairwise distinct
(a symmetric pair of affinity entries shares one draw); other membership rows are zero; the random
affinity start is symmetric; every position of a block of membership rows and of a random affinity
layer is used; the generator type is pinned.
Tie: `realization_start` hook events vs an independent reference stream.
-/
import MT.Generated.UtilsCode
import MTProofs.Init
import MTProps.C18
import MTProofs.Select
import Mathlib.Data.List.Basic

namespace MTProps.C17
open MT MTProofs

section
variable {α : Type} [Add α] [Sub α] [Mul α] [Div α] [LT α] [DecidableLT α] [MTExtra α]
variable (assort : Bool) (ik : InitKind) (K N : Nat) (nv : NetView) (userW : Tens α)

def affDraws : Nat :=
  match ik with
  | .random => if assort then nv.nL * K else nv.nL * rowStart K K
  | .fromInitial => if assort then userW.T * userW.R else userW.T * userW.R * userW.R
  | .exact => 0

def vDraws : Nat := if nv.directed then K * nv.vList.length else 0

/-- in call order: affinity, then in-membership rows (directed only), then out-membership rows -/
def drawsPerRealization : Nat :=
  affDraws assort ik K nv userW + vDraws K nv + K * nv.uList.length

theorem random_general_count : rowStart K K = K * (K + 1) / 2 := rowStart_total K

theorem initAff_used (d : Nat → α) :
    (initAff assort ik K nv.nL userW d).2 = affDraws assort ik K nv userW := by
  unfold initAff affDraws
  cases ik <;> simp only [initAffRandom_used, initAffFromInitial_used]

theorem initAff_congr (d d' : Nat → α) (h : ∀ t, t < affDraws assort ik K nv userW → d t = d' t) :
    (initAff assort ik K nv.nL userW d).1 = (initAff assort ik K nv.nL userW d').1 := by
  rw [← initAff_used assort ik K nv userW d] at h
  cases ik
  · exact initAffRandom_congr h
  · exact initAffFromInitial_congr h
  · rfl

theorem start_w (d : Nat → α) :
    (realizationStart assort ik K N nv userW d).1.w = (initAff assort ik K nv.nL userW d).1 := rfl

theorem start_v (d : Nat → α) : (realizationStart assort ik K N nv userW d).1.v =
    if nv.directed then
      (initRows N K nv.vList (fun _ _ => MTExtra.zero) fun t => d (affDraws assort ik K nv userW + t)).1
    else Tens.zeros 0 0 0 := by
  unfold realizationStart
  simp only [initAff_used]
  split <;> rfl

theorem start_u (d : Nat → α) : (realizationStart assort ik K N nv userW d).1.u =
    (initRows N K nv.uList (fun _ _ => MTExtra.zero) fun t =>
      d (affDraws assort ik K nv userW + vDraws K nv + t)).1 := by
  unfold realizationStart vDraws
  simp only [initAff_used]
  split <;> rfl

theorem initRows_sized (elems : List Nat) (prev : Nat → Nat → α) (d : Nat → α) :
    (initRows N K elems prev d).1.Sized := ofFn_sized _ _ _ _

theorem state_ext {s s' : State α} (hu : s.u = s'.u) (hv : s.v = s'.v) (hw : s.w = s'.w) : s = s' := by
  cases s; cases s'; cases hu; cases hv; cases hw; rfl

theorem used_eq (d : Nat → α) :
    (realizationStart assort ik K N nv userW d).2 = drawsPerRealization assort ik K nv userW := by
  unfold realizationStart drawsPerRealization vDraws
  simp only [initAff_used]
  split <;> rfl

theorem start_depends_on_segment (d d' : Nat → α)
    (h : ∀ t, t < drawsPerRealization assort ik K nv userW → d t = d' t) :
    (realizationStart assort ik K N nv userW d).1 = (realizationStart assort ik K N nv userW d').1 := by
  unfold drawsPerRealization at h
  refine state_ext ?_ ?_ ?_
  · rw [start_u, start_u]
    exact initRows_congr fun t ht => h _ (Nat.add_lt_add_left ht _)
  · rw [start_v, start_v]
    split
    · rename_i hd
      refine initRows_congr fun t ht => h _ ?_
      rw [vDraws, if_pos hd]
      exact Nat.lt_of_lt_of_le (Nat.add_lt_add_left ht _) (Nat.le_add_right _ _)
    · rfl
  · exact initAff_congr assort ik K nv userW d d' fun t ht =>
      h t (Nat.lt_of_lt_of_le ht (Nat.le_trans (Nat.le_add_right _ _) (Nat.le_add_right _ _)))

variable (maxIt nConv : Nat) (evalL : Nat → Nat → State α → α) (d : Nat → α)

/-- successive realizations consume consecutive, disjoint segments of the single stream, so a run is reproducible
from the stream, i.e. from the seed, alone -/
theorem realization_positions (i : Nat) :
    posSeq assort ik K N nv maxIt nConv evalL userW d i = i * drawsPerRealization assort ik K nv userW := by
  induction i with
  | zero => exact (Nat.zero_mul _).symm
  | succ i ih =>
    -- a realization uses what its start uses
    show posSeq assort ik K N nv maxIt nConv evalL userW d i + (realizationStart assort ik K N nv userW _).2 = _
    rw [ih, used_eq, Nat.succ_mul]

theorem realization_start_is_segment (i : Nat) :
    (outcomeOf assort ik K N nv maxIt nConv evalL userW d i).start =
      (realizationStart assort ik K N nv userW
        (fun t => d (i * drawsPerRealization assort ik K nv userW + t))).1 := by
  unfold outcomeOf outAt runRealization
  simp only [realization_positions]

end

section
variable {α : Type} [Add α] [Mul α] [MTExtra α]

theorem random_affinity_symmetric (K L : Nat) (d : Nat → α) {k q a : Nat} (hk : k < K) (hq : q < K) (ha : a < L) :
    (initAffRandom false K L d).1.get k q a = (initAffRandom false K L d).1.get q k a := by
  rw [initAffRandom_get_general hk hq ha, initAffRandom_get_general hq hk ha, triPos_symm]

theorem random_affinity_draws_distinct (K : Nat) {i j i' j' : Nat} (hi : i < K) (hj : j < K) (hi' : i' < K)
    (hj' : j' < K) (h : triPos K i j = triPos K i' j') :
    (min i j = min i' j' ∧ max i j = max i' j') ∧ triPos K i j < rowStart K K :=
  ⟨triPos_injective K hi hj hi' hj' h, triPos_lt K hi hj⟩

/-- a user-supplied affinity receives `EPS_NOISE × draw` per entry, each entry its own draw -/
theorem user_affinity_noise (init : Tens α) (d : Nat → α) {k q a : Nat} (hk : k < init.R) (hq : q < init.R)
    (ha : a < init.T) :
    (initAffFromInitial false init d).1.get k q a =
      init.get k q a + MTExtra.noise * d (a * init.R * init.R + k * init.R + q) :=
  initAffFromInitial_get_general hk hq ha

theorem user_affinity_noise_assort (init : Tens α) (d : Nat → α) {k a : Nat} (hk : k < init.R) (ha : a < init.T) :
    (initAffFromInitial true init d).1.get k 0 a = init.get k 0 a + MTExtra.noise * d (a * init.R + k) :=
  initAffFromInitial_get_assort hk ha

theorem member_rows_are_draws (N K : Nat) (elems : List Nat) (prev : Nat → Nat → α) (d : Nat → α)
    {j k : Nat} (hj : j < N) (hk : k < K) (hmem : j ∈ elems) :
    (initRows N K elems prev d).1.get j k 0 = d (k * elems.length + elems.idxOf j) := by
  rw [initRows_get hj hk, if_pos hmem]

/-- the previous value is zero: the working matrices are re-zeroed at the start of every realization -/
theorem other_rows_zero (N K : Nat) (elems : List Nat) (d : Nat → α)
    {j k : Nat} (hj : j < N) (hk : k < K) (hmem : j ∉ elems) :
    (initRows N K elems (fun _ _ => MTExtra.zero) d).1.get j k 0 = MTExtra.zero := by
  rw [initRows_get hj hk, if_neg hmem]

theorem member_draws_distinct (K : Nat) (elems : List Nat) {j k j' k' : Nat}
    (hmem : j ∈ elems) (hmem' : j' ∈ elems)
    (h : k * elems.length + elems.idxOf j = k' * elems.length + elems.idxOf j') : k = k' ∧ j = j' := by
  obtain ⟨e1, e2⟩ := C18.mul_add_div_mod k (List.idxOf_lt_length_iff.mpr hmem)
  obtain ⟨e1', e2'⟩ := C18.mul_add_div_mod k' (List.idxOf_lt_length_iff.mpr hmem')
  rw [h] at e1 e2
  exact ⟨e1.symm.trans e1', (List.idxOf_inj hmem).mp (e2.symm.trans e2')⟩

end

/-- with `member_draws_distinct`: each draw of the block is consumed exactly once by the listed rows -/
theorem member_draws_cover (K : Nat) (elems : List Nat) (hnd : elems.Nodup) {t : Nat} (ht : t < K * elems.length) :
    ∃ k j, k < K ∧ j ∈ elems ∧ t = k * elems.length + elems.idxOf j := by
  obtain ⟨h1, h2, h3⟩ := C18.div_mod_lt ht
  exact ⟨t / elems.length, elems[t % elems.length], h1, List.getElem_mem h2,
    by rw [List.Nodup.idxOf_getElem hnd, h3]⟩

theorem random_affinity_draws_cover (K : Nat) {t : Nat} (ht : t < rowStart K K) :
    ∃ i j, i ≤ j ∧ j < K ∧ triPos K i j = t := by
  obtain ⟨a, b, hab, hb, h⟩ := rowStart_add_surj K ht
  exact ⟨a, b, hab, hb, (triPos_of_le K hab).trans h⟩

example : (triPos 3 0 0, triPos 3 0 1, triPos 3 0 2, triPos 3 1 1, triPos 3 1 2, triPos 3 2 2, rowStart 3 3)
    = (0, 1, 2, 3, 4, 5, 6) ∧ triPos 3 2 1 = triPos 3 1 2 := by decide

/-- `utils::RandomGenerator` as it stands in utils.hpp: the seed is kept, the engine is seeded with it (as
`unsigned int`), every call returns the next value of the distribution over the engine -/
theorem random_generator_documented :
    Gen.randomGeneratorText = "std::time_tseed;rng_trng;dist_tdist;RandomGenerator(std::time_tseed=std::time(nullptr)):seed(seed){rng.seed(static_cast<unsignedint>(seed));}autooperator()(){returndist(rng);}" := rfl

end MTProps.C17
