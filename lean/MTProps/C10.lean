/-
C10 — assortative model = general model restricted to diagonal affinities.
`embed` puts the K values of each layer of a diagonal tensor (K×1×L) on the diagonal of a general
tensor (K×K×L).  Theorems (ℝ-model): one sweep commutes with `embed`, hence any number of sweeps;
off-diagonal entries stay exactly zero; likelihoods coincide.  Directed and undirected.
Tie: paired real runs through an initialiser type that installs the start exactly.
-/
import MTProofs.Likelihood
import MTProps.C02

namespace MTProps.C10
open MT MTProofs Finset MTProps.C02

noncomputable def embedW (K : Nat) (D : Tens ℝ) : Tens ℝ :=
  Tens.ofFn K K D.T fun k q a => if k = q then D.get k 0 a else 0

noncomputable def embed (K : Nat) (s : State ℝ) : State ℝ := { s with w := embedW K s.w }

theorem wView_embed (K : Nat) (D : Tens ℝ) (t : Bool) {k l a : Nat} (hk : k < K) (hl : l < K) (ha : a < D.T) :
    wView false t (embedW K D) k l a = if k = l then wView true t D k l a else 0 := by
  rw [wView_general, wView_assort, embedW, get_ofFn _ _ _ _ hk hl ha, get_ofFn _ _ _ _ hl hk ha]
  cases t
  · rfl
  · by_cases h : k = l
    · subst h; rfl
    · exact (if_neg (Ne.symm h)).trans (if_neg h).symm

/-! A summand that lives on the diagonal, `f k q = if k = q then g k q else 0`: the general sums over it are the
assortative ones over `g`. -/

theorem gsum_of_diag {K : Nat} {f g : Nat → Nat → ℝ}
    (h : ∀ k q, k < K → q < K → f k q = if k = q then g k q else 0) : gsum false K f = gsum true K g := by
  show ∑ k ∈ range K, ∑ q ∈ range K, f k q = ∑ k ∈ range K, g k k
  refine sum_congr rfl fun k hk => ?_
  rw [sum_congr rfl fun q hq => h k q (mem_range.mp hk) (mem_range.mp hq), sum_ite_eq, if_pos hk]

theorem csum_of_diag {K k : Nat} (hk : k < K) {f g : Nat → ℝ}
    (h : ∀ q, q < K → f q = if k = q then g q else 0) : csum false K k f = csum true K k g := by
  show ∑ q ∈ range K, f q = g k
  rw [sum_congr rfl fun q hq => h q (mem_range.mp hq), sum_ite_eq, if_pos (mem_range.mpr hk)]

section entries
variable {K L N : Nat} {wg wa : Nat → Nat → Nat → ℝ}
  (hw : ∀ k l a, k < K → l < K → a < L → wg k l a = if k = l then wa k l a else 0)
include hw

theorem rate_diag {Y X : Nat → Nat → ℝ} {i j a : Nat} (ha : a < L) :
    rate false K wg Y X i j a = rate true K wa Y X i j a :=
  gsum_of_diag fun k q hk hq => by rw [hw k q a hk hq ha, mul_ite, mul_zero]

theorem csum_diag {f : Nat → ℝ} {k a : Nat} (hk : k < K) (ha : a < L) :
    csum false K k (fun q => f q * wg k q a) = csum true K k (fun q => f q * wa k q a) :=
  csum_of_diag hk fun q hq => by rw [hw k q a hk hq ha, mul_ite, mul_zero]

theorem specZ_diag {den : List Nat} {Y : Nat → Nat → ℝ} {k : Nat} (hk : k < K) :
    specZ false K L den wg Y k = specZ true K L den wa Y k :=
  csum_of_diag hk fun q hq => by
    rw [sum_congr rfl fun a ha => hw k q a hk hq (mem_range.mp ha), sum_ite_irrel, sum_const_zero, ite_mul, zero_mul]

theorem specVEntry_diag {num den : List Nat} {nbr : Nat → Nat → List Nat} {Y X : Nat → Nat → ℝ}
    {i k : Nat} (hk : k < K) :
    specVEntry false K L N num den nbr wg Y X i k = specVEntry true K L N num den nbr wa Y X i k := by
  have hval : specVal false K L N nbr wg Y X i k = specVal true K L N nbr wa Y X i k :=
    sum_congr rfl fun a ha => sum_congr rfl fun j _ => by
      rw [rate_diag hw (mem_range.mp ha), csum_diag hw (f := fun q => Y j q) hk (mem_range.mp ha)]
  rw [specVEntry, specVEntry, specZ_diag hw hk, hval]

theorem specWEntry_diag {uList vList : List Nat} {out : Nat → Nat → List Nat} {u v : Nat → Nat → ℝ}
    {k a : Nat} (hk : k < K) (ha : a < L) :
    specWEntry false K N uList vList out u v wg k k a = specWEntry true K N uList vList out u v wa k k a := by
  have hacc : specWAcc false K N out u v wg k k a = specWAcc true K N out u v wa k k a :=
    sum_congr rfl fun i _ => congrArg _ <| sum_congr rfl fun j _ => by rw [rate_diag hw ha]
  rw [specWEntry, specWEntry, hacc, hw k k a hk hk ha, if_pos rfl]

theorem specWEntry_offdiag {uList vList : List Nat} {out : Nat → Nat → List Nat} {u v : Nat → Nat → ℝ}
    {k q a : Nat} (hk : k < K) (hq : q < K) (ha : a < L) (hne : k ≠ q) :
    specWEntry false K N uList vList out u v wg k q a = 0 := by
  apply zero_affinity_stays_zero
  rw [hw k q a hk hq ha, if_neg hne]

theorem poissonLL_diag {out : Nat → Nat → List Nat} {u v : Nat → Nat → ℝ} :
    poissonLL false K L N out u v wg = poissonLL true K L N out u v wa :=
  sum_congr rfl fun a ha => sum_congr rfl fun i _ => sum_congr rfl fun j _ => by
    rw [cellLL, rate_diag hw (mem_range.mp ha)]; rfl

end entries

structure AssortShape (K : Nat) (nv : NetView) (s : State ℝ) : Prop where
  wR : s.w.R = K
  wC : s.w.C = 1
  wT : s.w.T = nv.nL
  vR : nv.directed = true → s.v.R = s.u.R

variable (K : Nat)

theorem updateVertices_embed (L N : Nat) (num den : List Nat) (nbr : Nat → Nat → List Nat)
    (hN : ∀ a i, ∀ j ∈ nbr a i, j < N) (D : Tens ℝ) (hT : D.T = L) (t : Bool)
    (Y : Nat → Nat → ℝ) (old : Tens ℝ) :
    updateVertices false K L N num den nbr (wView false t (embedW K D)) Y old =
      updateVertices true K L N num den nbr (wView true t D) Y old := by
  apply ofFn_congr
  intro i k _ _ hk _
  rw [updVEntry_eq_spec false K L N _ _ _ _ _ _ hN, updVEntry_eq_spec true K L N _ _ _ _ _ _ hN]
  exact specVEntry_diag (fun k l a hk hl ha => wView_embed K D t hk hl (hT ▸ ha)) hk

theorem updateAffinity_embed (L N : Nat) (uList vList : List Nat) (out : Nat → Nat → List Nat)
    (hN : ∀ a i, ∀ j ∈ out a i, j < N) (D : Tens ℝ) (hT : D.T = L) (u v : Nat → Nat → ℝ) :
    updateAffinity false K L N uList vList out u v (embedW K D) =
      embedW K (updateAffinity true K L N uList vList out u v D) := by
  have hw := fun k l a hk hl ha => wView_embed K D false (k := k) (l := l) (a := a) hk hl (hT ▸ ha)
  unfold embedW
  rw [updateAffinity_T]
  apply ofFn_congr
  intro k q a hk hq ha
  rw [updWEntry_eq_spec false K N _ _ _ _ _ _ hN]
  by_cases hkq : k = q
  · subst hkq
    rw [if_pos rfl, updateAffinity_get_assort hk ha, updWEntry_eq_spec true K N _ _ _ _ _ _ hN]
    exact specWEntry_diag hw hk ha
  · rw [if_neg hkq]
    exact specWEntry_offdiag hw hk hq ha hkq

variable (nv : NetView)

section steps
variable (s : State ℝ) (hT : s.w.T = nv.nL)
include hT

theorem stepU_embed (hN : ∀ a i, ∀ j ∈ nv.out a i, j < s.u.R) :
    stepU false K nv (embed K s) = embed K (stepU true K nv s) :=
  congrArg (fun u => ({ u := u, v := s.v, w := embedW K s.w } : State ℝ))
    (updateVertices_embed K nv.nL s.u.R _ _ _ hN s.w hT false _ s.u)

theorem stepV_embed (hN : nv.directed = true → ∀ a i, ∀ j ∈ nv.inn a i, j < s.v.R) :
    stepV false K nv (embed K s) = embed K (stepV true K nv s) := by
  cases hd : nv.directed
  · rw [stepV_of_undirected hd, stepV_of_undirected hd]
  · rw [stepV_of_directed hd, stepV_of_directed hd]
    exact congrArg (fun v => ({ u := s.u, v := v, w := embedW K s.w } : State ℝ))
      (updateVertices_embed K nv.nL s.v.R _ _ _ (hN hd) s.w hT true _ s.v)

theorem stepW_embed (hN : ∀ a i, ∀ j ∈ nv.out a i, j < s.u.R) :
    stepW false K nv (embed K s) = embed K (stepW true K nv s) :=
  congrArg (fun w => ({ u := s.u, v := s.v, w := w } : State ℝ))
    (updateAffinity_embed K nv.nL s.u.R _ _ _ hN s.w hT _ _)

end steps

theorem sweep_embed (s : State ℝ) (hs : AssortShape K nv s) (hwf : ViewWF nv s.u.R) :
    sweep false K nv (embed K s) = embed K (sweep true K nv s) := by
  unfold sweep
  rw [stepU_embed K nv s hs.wT hwf.1, stepV_embed K nv (stepU true K nv s) hs.wT fun hd => hs.vR hd ▸ hwf.2]
  exact stepW_embed K nv _ (by rw [stepV_w]; exact hs.wT) (by rw [stepV_u]; exact hwf.1)

theorem shape_sweep (s : State ℝ) (hs : AssortShape K nv s) : AssortShape K nv (sweep true K nv s) :=
  ⟨sweep_w_R .., sweep_w_C .., sweep_w_T .., fun hd => by rw [sweep_v_R, sweep_u_R]; exact hs.vR hd⟩

/-- memberships and diagonal affinities coincide, off-diagonals stay zero, after any number of sweeps -/
theorem iterate_embed (n : Nat) (s : State ℝ) (hs : AssortShape K nv s) (hwf : ViewWF nv s.u.R) :
    (sweep false K nv)^[n] (embed K s) = embed K ((sweep true K nv)^[n] s) := by
  induction n generalizing s with
  | zero => rfl
  | succ n ih =>
    rw [Function.iterate_succ_apply, Function.iterate_succ_apply, sweep_embed K nv s hs hwf]
    exact ih _ (shape_sweep K nv s hs) (by rw [sweep_u_R]; exact hwf)

theorem offdiag_zero (n : Nat) (s : State ℝ) (hs : AssortShape K nv s) (hwf : ViewWF nv s.u.R)
    {k q a : Nat} (hk : k < K) (hq : q < K) (ha : a < nv.nL) (hne : k ≠ q) :
    ((sweep false K nv)^[n] (embed K s)).w.get k q a = 0 := by
  have hT := (iterate_sweep_induction true K nv (AssortShape K nv)
    (fun s _ => shape_sweep K nv s) hs n).1.wT
  rw [iterate_embed K nv n s hs hwf]
  unfold embed embedW
  rw [get_ofFn _ _ _ _ hk hq (hT ▸ ha), if_neg hne]

theorem likelihood_embed (s : State ℝ) (hs : AssortShape K nv s) :
    stateLik false K nv (embed K s) = stateLik true K nv s := by
  rw [stateLik_eq, stateLik_eq]
  exact poissonLL_diag fun k l a hk hl ha => wView_embed K s.w false hk hl (hs.wT ▸ ha)

end MTProps.C10
