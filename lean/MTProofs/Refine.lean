/-
Refinement of the loop-order entry formulas of the solver model (MT.Solver, at ℝ) to the
paper-form equations with dense multiplicities.
-/
import MTProofs.RealScalar

namespace MTProofs
open MT Finset

noncomputable def gsum (assort : Bool) (K : Nat) (f : Nat → Nat → ℝ) : ℝ :=
  if assort then ∑ k ∈ range K, f k k else ∑ k ∈ range K, ∑ q ∈ range K, f k q

noncomputable def csum (assort : Bool) (K k : Nat) (f : Nat → ℝ) : ℝ :=
  if assort then f k else ∑ q ∈ range K, f q

noncomputable def snapR (x : ℝ) : ℝ := if |x| < ε then 0 else x

theorem snap_eq (x : ℝ) : snap x = snapR x := rfl

theorem snapR_nonneg {x : ℝ} (h : 0 ≤ x) : 0 ≤ snapR x := by
  unfold snapR; split <;> [exact le_rfl; exact h]

theorem guarded_nonneg {g : Prop} [Decidable g] {x raw : ℝ} (hx : 0 ≤ x) (h : g → 0 ≤ raw) :
    0 ≤ if g then snapR raw else x := by
  split_ifs with hg
  · exact snapR_nonneg (h hg)
  · exact hx

theorem guarded_eq {g : Prop} [Decidable g] {x raw raw' : ℝ} (hns : g → ¬ |raw| < ε) (h : g → raw = raw') :
    (if g then snapR raw else x) = if g then raw' else x := by
  split_ifs with hg
  · rw [snapR, if_neg (hns hg), h hg]
  · rfl

theorem count_mul_guard {n : Nat} {r t : ℝ} (h : 0 < n → ε < r) :
    (n : ℝ) * (if ε < r then t else 0) = n * t := by
  rcases Nat.eq_zero_or_pos n with rfl | hn
  · simp
  · rw [if_pos (h hn)]

/-- what truncation takes from a guarded entry, times `z`, added back -/
theorem guarded_add_snapped {g : Prop} [Decidable g] (x raw z : ℝ) :
    (if g then snapR raw else x) * z + (if g ∧ |raw| < ε then z * raw else 0) = (if g then raw else x) * z := by
  unfold snapR
  by_cases hg : g <;> by_cases hs : |raw| < ε <;> simp [hg, hs, mul_comm]

theorem gsum_eq_sumL (assort : Bool) (K : Nat) (f : Nat → Nat → ℝ) :
    sumL (gpairs assort K) (fun p => f p.1 p.2) = gsum assort K f := by
  unfold gpairs gsum
  cases assort
  · simp only [Bool.false_eq_true, ↓reduceIte, sumL_pairs]
  · simp only [↓reduceIte, sumL_map, sumL_range]

theorem csum_eq_sumL (assort : Bool) (K k : Nat) (f : Nat → ℝ) :
    sumL (cols assort K k) f = csum assort K k f := by
  unfold cols csum
  cases assort
  · simp only [Bool.false_eq_true, ↓reduceIte, sumL_range]
  · simp only [↓reduceIte, sumL_singleton]

def gP (assort : Bool) (K : Nat) : Finset (Nat × Nat) :=
  if assort then (range K).image (fun k => (k, k)) else range K ×ˢ range K

theorem gsum_eq_sum_gP (assort : Bool) (K : Nat) (f : Nat → Nat → ℝ) :
    gsum assort K f = ∑ p ∈ gP assort K, f p.1 p.2 := by
  unfold gP gsum
  cases assort
  · simp only [Bool.false_eq_true, ↓reduceIte]
    rw [sum_product]
  · simp only [↓reduceIte]
    rw [sum_image]
    intro x _ y _ h
    exact (Prod.mk.inj h).1

theorem mem_gP_iff {assort : Bool} {K : Nat} {p : Nat × Nat} :
    p ∈ gP assort K ↔ p.1 < K ∧ p.2 < K ∧ (assort = true → p.1 = p.2) := by
  obtain ⟨k, q⟩ := p
  cases assort
  · simp [gP]
  · simp only [gP, if_true, mem_image, mem_range, Prod.mk.injEq, forall_const]
    constructor
    · rintro ⟨x, hx, rfl, rfl⟩; exact ⟨hx, hx, rfl⟩
    · rintro ⟨hk, _, rfl⟩; exact ⟨k, hk, rfl, rfl⟩

theorem mem_gP {assort : Bool} {K : Nat} {p : Nat × Nat} (h : p ∈ gP assort K) : p.1 < K ∧ p.2 < K :=
  ⟨(mem_gP_iff.1 h).1, (mem_gP_iff.1 h).2.1⟩

section vertices
variable (assort : Bool) (K L N : Nat) (numList denList : List Nat)
  (nbr : Nat → Nat → List Nat) (wf : Nat → Nat → Nat → ℝ) (Y X : Nat → Nat → ℝ)

/-- model rate `M_{ij}^a = Σ_{(m,l)} X_{im} Y_{jl} ω_{ml}^a` -/
noncomputable def rate (i j a : Nat) : ℝ := gsum assort K fun m l => X i m * Y j l * wf m l a

/-- normalisation `Z_k = Σ_l (Σ_a ω_{kl}^a)(Σ_{j∈D} Y_{jl})` -/
noncomputable def specZ (k : Nat) : ℝ :=
  csum assort K k fun l => (∑ a ∈ range L, wf k l a) * sumL denList (fun j => Y j l)

/-- numerator `Σ_a Σ_j B_{ij}^a [M>ε] (Σ_q Y_{jq} ω_{kq}^a) / M_{ij}^a` with `B` the multiplicity -/
noncomputable def specVal (i k : Nat) : ℝ :=
  ∑ a ∈ range L, ∑ j ∈ range N, ((nbr a i).count j : ℝ) *
    (if ε < rate assort K wf Y X i j a then
      csum assort K k (fun q => Y j q * wf k q a) / rate assort K wf Y X i j a else 0)

/-- the published multiplicative update with the documented guards and truncation -/
noncomputable def specVEntry (i k : Nat) : ℝ :=
  if ε < specZ assort K L denList wf Y k ∧ i ∈ numList ∧ ε < X i k then
    snapR (X i k / specZ assort K L denList wf Y k * specVal assort K L N nbr wf Y X i k)
  else X i k

theorem vZ_eq (k : Nat) : vZ assort K L denList wf Y k = specZ assort K L denList wf Y k := by
  unfold vZ specZ
  rw [csum_eq_sumL]
  congr 1
  funext l
  rw [sumL_range]

theorem vZij_eq (i j a : Nat) : vZij assort K wf Y X i j a = rate assort K wf Y X i j a := by
  unfold vZij rate
  exact gsum_eq_sumL assort K (fun m l => X i m * Y j l * wf m l a)

theorem vRho_eq (i k j a : Nat) :
    vRho assort K wf Y X i k j a =
      csum assort K k (fun q => Y j q * wf k q a) / rate assort K wf Y X i j a := by
  unfold vRho
  rw [vZij_eq, csum_eq_sumL]

theorem vVal_eq (hN : ∀ a i, ∀ j ∈ nbr a i, j < N) (i k : Nat) :
    vVal assort K L nbr wf Y X i k = specVal assort K L N nbr wf Y X i k := by
  unfold vVal specVal edgePairs
  rw [sumL_filter, sumL_flatMap, sumL_range]
  apply sum_congr rfl
  intro a _
  rw [sumL_map, sumL_adj _ N (hN a i)]
  apply sum_congr rfl
  intro j _
  simp only [vZij_eq, vRho_eq, decide_eq_true_eq]

/-- C02, membership step: the loop-order entry formula is the published update. -/
theorem updVEntry_eq_spec (hN : ∀ a i, ∀ j ∈ nbr a i, j < N) (i k : Nat) :
    updVEntry assort K L numList denList nbr wf Y X i k =
      specVEntry assort K L N numList denList nbr wf Y X i k := by
  unfold updVEntry specVEntry
  rw [vZ_eq, vVal_eq assort K L N nbr wf Y X hN]
  rfl

end vertices

section affinity
variable (assort : Bool) (K L N : Nat) (uList vList : List Nat)
  (out : Nat → Nat → List Nat) (u v : Nat → Nat → ℝ) (w : Nat → Nat → Nat → ℝ)

/-- `Z_{kq} = (Σ_{i∈U} u_{ik})(Σ_{j∈V} v_{jq})` -/
noncomputable def specWZ (k q : Nat) : ℝ := sumL uList (fun i => u i k) * sumL vList (fun j => v j q)

/-- numerator `Σ_i Σ_j A_{ij}^a [M>ε] u_{ik} v_{jq} / M_{ij}^a` (as the code groups it) -/
noncomputable def specWAcc (k q a : Nat) : ℝ :=
  ∑ i ∈ range N, u i k * ∑ j ∈ range N, ((out a i).count j : ℝ) *
    (if ε < rate assort K w v u i j a then v j q / rate assort K w v u i j a else 0)

/-- the published multiplicative update of the affinity -/
noncomputable def specWEntry (k q a : Nat) : ℝ :=
  if ε < specWZ uList vList u v k q ∧ ε < w k q a then
    snapR (w k q a / specWZ uList vList u v k q * specWAcc assort K N out u v w k q a)
  else w k q a

/-- `update_affinity` accumulates the same `Zij_a` as `update_vertices` -/
theorem wZij_eq (i j a : Nat) : wZij assort K u v w i j a = rate assort K w v u i j a :=
  vZij_eq assort K w v u i j a

theorem wAcc_eq (hN : ∀ a i, ∀ j ∈ out a i, j < N) (k q a : Nat) :
    wAcc assort K N out u v w k q a = specWAcc assort K N out u v w k q a := by
  unfold wAcc specWAcc wRho
  rw [sumL_range]
  apply sum_congr rfl
  intro i _
  congr 1
  rw [sumL_filter, sumL_adj _ N (hN a i)]
  apply sum_congr rfl
  intro j _
  simp only [wZij_eq, decide_eq_true_eq]

variable {assort K N out u v w} in
/-- with every observed edge of layer `a` above the guard, the guard in the numerator is vacuous -/
theorem specWAcc_of_rates {a : Nat}
    (hR : ∀ i j, i < N → j < N → 0 < (out a i).count j → ε < rate assort K w v u i j a) (k q : Nat) :
    specWAcc assort K N out u v w k q a =
      ∑ i ∈ range N, ∑ j ∈ range N, ((out a i).count j : ℝ) * (u i k * v j q / rate assort K w v u i j a) := by
  unfold specWAcc
  refine sum_congr rfl fun i hi => (mul_sum _ _ _).trans <| sum_congr rfl fun j hj => ?_
  rw [count_mul_guard (hR i j (mem_range.mp hi) (mem_range.mp hj)), mul_left_comm, mul_div_assoc]

/-- C02, affinity step. -/
theorem updWEntry_eq_spec (hN : ∀ a i, ∀ j ∈ out a i, j < N) (k q a : Nat) :
    updWEntry assort K N uList vList out u v w k q a =
      specWEntry assort K N uList vList out u v w k q a := by
  unfold updWEntry specWEntry
  rw [wAcc_eq assort K N out u v w hN]
  rfl

end affinity

end MTProofs
