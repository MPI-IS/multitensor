/-
The `Network` constructor of graph.hpp, `add_vertex` and the two `extract_…` functions.  The generated code has its
structure from the source and the meaning of each statement from the table in tools/gen_graph_code.py.
Each loop is an equation of states.  The constructor: after `n` records the state holds (`HoldsNet`) the network of those
records (`MTProofs.buildPrefix`), and one pass of its loop is the model's `addRecord`.
-/
import MT.Generated.GraphCode
import MTProofs.Graph
import MTProofs.Folds

set_option linter.unusedSectionVars false

namespace MT.CodeRefine
open MT MT.Imp MT.Gen MTProofs

/-- one `add_edge` of a directed graph: one unit of the piece -/
theorem appendAt_eq (f : Nat → Nat → List Nat) (alpha s t a v : Nat) :
    appendAt f alpha s t a v = f a v ++ if a = alpha then pieceOut true s t 1 v else [] := by
  unfold appendAt pieceOut
  by_cases ha : a = alpha <;> by_cases hv : s = v <;> simp [ha, hv, eq_comm]

/-- what the code appends to the in-list of `v` for one record: directed graphs only -/
def pieceIn (directed : Bool) (src dst m v : Nat) : List Nat :=
  if directed then pieceOut true dst src m v else []

theorem pieceIn_zero (directed : Bool) (src dst v : Nat) : pieceIn directed src dst 0 v = [] := by
  cases directed
  · rfl
  · exact pieceOut_zero ..

theorem pieceIn_succ (directed : Bool) (src dst m v : Nat) :
    pieceIn directed src dst (m + 1) v = pieceIn directed src dst m v ++ pieceIn directed src dst 1 v := by
  cases directed
  · rfl
  · exact pieceOut_succ ..

theorem append_ite_append {γ : Type} (c : Prop) [Decidable c] (l p q : List γ) :
    (l ++ if c then p else []) ++ (if c then q else []) = l ++ if c then p ++ q else [] := by
  split <;> simp

theorem append_ite_lt_succ {γ : Type} (f : Nat → List γ) (a n : Nat) (l : List γ) :
    (l ++ if a < n then f a else []) ++ (if a = n then f n else []) = l ++ if a < n + 1 then f a else [] := by
  by_cases ha : a = n
  · subst ha; simp
  · by_cases hlt : a < n
    · simp [ha, hlt, Nat.lt_succ_of_lt hlt]
    · simp [ha, hlt, show ¬ a < n + 1 by omega]

section
variable {β : Type} [DecidableEq β]

/-- the edges of one record in the layers below `n` -/
def addEdges (directed : Bool) (n : Nat) (units : Nat → Nat) (s : NetLoc β) : NetLoc β :=
  { s with
    outA := fun a v => s.outA a v ++ if a < n then pieceOut directed s.node_in s.node_out (units a) v else [],
    innA := fun a v => s.innA a v ++ if a < n then pieceIn directed s.node_in s.node_out (units a) v else [],
    nedges := s.nedges + ((List.range n).map units).sum }

/-- with no units from layer `n` on, these are all the edges of the record -/
theorem addEdges_of_zero (directed : Bool) (n : Nat) (units : Nat → Nat) (s : NetLoc β) (hz : ∀ a, n ≤ a → units a = 0) :
    addEdges directed n units s =
      { s with
        outA := fun a v => s.outA a v ++ pieceOut directed s.node_in s.node_out (units a) v,
        innA := fun a v => s.innA a v ++ pieceIn directed s.node_in s.node_out (units a) v,
        nedges := s.nedges + ((List.range n).map units).sum } := by
  unfold addEdges
  congr 1 <;> funext a v <;> split
  · rfl
  · next h => rw [hz a (Nat.not_lt.mp h), pieceOut_zero]
  · rfl
  · next h => rw [hz a (Nat.not_lt.mp h), pieceIn_zero]

/-- one pass of the `for (w < weight)` loop: `add_edge` once (boost puts an undirected edge into both out-lists) -/
theorem edge_body (directed : Bool) (alpha : Nat) (s : NetLoc β) :
    (if directed then
        ({ s with outA := appendAt s.outA alpha s.node_in s.node_out,
                  innA := appendAt s.innA alpha s.node_out s.node_in } : NetLoc β)
      else { s with outA := appendAt (appendAt s.outA alpha s.node_in s.node_out) alpha s.node_out s.node_in }) =
      { s with
        outA := fun a v => s.outA a v ++ if a = alpha then pieceOut directed s.node_in s.node_out 1 v else [],
        innA := fun a v => s.innA a v ++ if a = alpha then pieceIn directed s.node_in s.node_out 1 v else [] } := by
  cases directed
  · simp only [Bool.false_eq_true, if_false]
    congr 1 <;> funext a v
    · rw [appendAt_eq, appendAt_eq, append_ite_append, pieceOut_undirected]
    · simp [pieceIn]
  · simp only [if_true]
    congr 1 <;> funext a v <;> exact appendAt_eq ..

/-- the `for (w < weight)` loop of one record in one layer -/
theorem edge_loop (directed : Bool) (nL : Nat) (starts ends : List β) (dflt : β) (unitsAt : Nat → Nat → Nat)
    (i alpha : Nat) (s : NetLoc β) :
    networkCode_1_1 directed nL starts ends dflt unitsAt i alpha s =
      { s with
        outA := fun a v => s.outA a v ++
          if a = alpha then pieceOut directed s.node_in s.node_out (unitsAt i alpha) v else [],
        innA := fun a v => s.innA a v ++
          if a = alpha then pieceIn directed s.node_in s.node_out (unitsAt i alpha) v else [],
        nedges := s.nedges + unitsAt i alpha } := by
  unfold networkCode_1_1
  refine forRange_eq _ (fun m => ({ s with
        outA := fun a v => s.outA a v ++ if a = alpha then pieceOut directed s.node_in s.node_out m v else [],
        innA := fun a v => s.innA a v ++ if a = alpha then pieceIn directed s.node_in s.node_out m v else [],
        nedges := s.nedges + m } : NetLoc β)) ?_ (fun m => ?_) _
  · simp [pieceOut_zero, pieceIn_zero]
  · rw [edge_body]
    dsimp only
    congr 1 <;> funext a v
    · rw [append_ite_append, ← pieceOut_succ]
    · rw [append_ite_append, ← pieceIn_succ]

theorem layer_loop (directed : Bool) (nL : Nat) (starts ends : List β) (dflt : β) (unitsAt : Nat → Nat → Nat)
    (i n : Nat) (s : NetLoc β) :
    (List.range n).foldl (fun s alpha => networkCode_1_1 directed nL starts ends dflt unitsAt i alpha s) s =
      addEdges directed n (unitsAt i) s := by
  refine forRange_eq _ (fun n => addEdges directed n (unitsAt i) s) ?_ (fun n => ?_) n
  · simp [addEdges]
  · rw [edge_loop]
    unfold addEdges
    simp only [List.range_succ, List.map_append, List.sum_append, List.map_cons, List.map_nil, List.sum_cons,
      List.sum_nil, Nat.add_zero, Nat.add_assoc]
    congr 1 <;> funext a v
    · exact append_ite_lt_succ (fun a => pieceOut directed s.node_in s.node_out (unitsAt i a) v) a n _
    · exact append_ite_lt_succ (fun a => pieceIn directed s.node_in s.node_out (unitsAt i a) v) a n _

theorem lookup_snoc_idxOf {m : List (β × Nat)} {L : List β}
    (hm : ∀ l, m.lookup l = if l ∈ L then some (L.idxOf l) else none) {x : β} (hx : x ∉ L) (l : β) :
    (m ++ [(x, L.length)]).lookup l = if l ∈ L ++ [x] then some ((L ++ [x]).idxOf l) else none := by
  rw [List.lookup_append, hm l]
  by_cases hl : l ∈ L
  · simp [hl, List.idxOf_append_of_mem hl]
  · by_cases hlx : l = x
    · subst hlx
      simp [hl, List.idxOf_append_of_notMem hl]
    · have : ¬ (l == x) = true := by simpa using hlx
      simp [hl, hlx, List.lookup_cons, this]

def LabelsAgree (nL : Nat) (L : List β) (s : NetLoc β) : Prop :=
  (∀ a, a < nL → s.vlab a = L) ∧ (∀ l, s.idx_map.lookup l = if l ∈ L then some (L.idxOf l) else none)

theorem pushAt_eq (f : Nat → List β) (a : Nat) (x : β) (a' : Nat) :
    pushAt f a x a' = f a' ++ if a' = a then [x] else [] := by
  unfold pushAt
  split
  · next h => rw [h]
  · rw [List.append_nil]

/-- the loop `for alpha: idx = boost::add_vertex(label, layer alpha)` -/
theorem addVertex_loop (n : Nat) (x : β) (s : NetLoc β) :
    (List.range n).foldl (fun (s : NetLoc β) alpha =>
      { s with idx := (s.vlab alpha).length, vlab := pushAt s.vlab alpha x }) s =
    { s with idx := if n = 0 then s.idx else (s.vlab (n - 1)).length,
             vlab := fun a => s.vlab a ++ if a < n then [x] else [] } := by
  refine forRange_eq _ (fun n => ({ s with
      idx := if n = 0 then s.idx else (s.vlab (n - 1)).length,
      vlab := fun a => s.vlab a ++ if a < n then [x] else [] } : NetLoc β)) ?_ (fun n => ?_) n
  · simp
  · simp only [Nat.lt_irrefl, if_false, List.append_nil, Nat.succ_ne_zero, Nat.add_sub_cancel]
    congr 1
    funext a
    rw [pushAt_eq]
    exact append_ite_lt_succ (fun _ => [x]) a n _

/-- `Network::add_vertex`: a label already known returns its index, a new one is appended to every layer and to the map. -/
theorem addVertex_spec (nL : Nat) (hnL : 0 < nL) (L : List β) (x : β) (s : NetLoc β) (h : LabelsAgree nL L s) :
    let s' := addVertexCode nL x s
    LabelsAgree nL (ins L x) s' ∧ s'.ret = (ins L x).idxOf x ∧ s'.outA = s.outA ∧ s'.innA = s.innA ∧
    s'.nedges = s.nedges ∧ s'.node_in = s.node_in := by
  obtain ⟨hv, hm⟩ := h
  unfold addVertexCode
  by_cases hx : x ∈ L
  · have hl : s.idx_map.lookup x = some (L.idxOf x) := by rw [hm x, if_pos hx]
    have hins : ins L x = L := if_pos hx
    rw [hl, hins]
    exact ⟨⟨hv, hm⟩, rfl, rfl, rfl, rfl, rfl⟩
  · have hl : s.idx_map.lookup x = none := by rw [hm x, if_neg hx]
    have hins : ins L x = L ++ [x] := if_neg hx
    have hidx : (if nL = 0 then 0 else (s.vlab (nL - 1)).length) = L.length := by
      rw [if_neg (by omega), hv (nL - 1) (by omega)]
    rw [hl, hins]
    simp only [if_true, forRange, addVertex_loop, hidx]
    have hlook := lookup_snoc_idxOf hm hx
    refine ⟨⟨fun a ha => ?_, hlook⟩, ?_, trivial, trivial, trivial, trivial⟩
    · simp only [ha, if_true, hv a ha]
    · simp only [hlook x]
      simp [List.idxOf_append_of_notMem hx]

/-- The code's state holds the network `N`: every layer lists `N`'s labels in `N`'s order (and the map agrees), the
adjacency lists are the pieces of `N`'s records, the counter their units. -/
structure HoldsNet (N : Net β) (s : NetLoc β) : Prop where
  labels : LabelsAgree N.nL N.labels s
  outA : ∀ a v, s.outA a v = N.out a v
  innA : ∀ a v, s.innA a v = N.recs.flatMap fun r => pieceIn N.directed r.src r.dst (Net.unitsAt r a) v
  nedges : s.nedges = N.nedges

/-- One pass of the constructor's loop is the model's `addRecord`.  `un` are the record's units as a list: the code asks
for them layer by layer, below `nL` only (`hun`: there are no others). -/
theorem HoldsNet.record {N : Net β} {S : NetLoc β} (h : HoldsNet N S) (hnL : 0 < N.nL) (starts ends : List β) (dflt : β)
    (unitsAt : Nat → Nat → Nat) (i : Nat) (un : List Nat) (hun : un.length ≤ N.nL)
    (hu : unitsAt i = fun a => un.getD a 0) :
    HoldsNet (addRecord N (starts.getD i dflt) (ends.getD i dflt) un)
      (networkCode_1 N.directed N.nL starts ends dflt unitsAt i S) := by
  unfold networkCode_1
  have hz : ∀ a, N.nL ≤ a → un.getD a 0 = 0 := fun a ha => getD_eq_zero (hun.trans ha)
  simp only [forRange, layer_loop, hu, addEdges_of_zero _ _ _ _ hz]
  obtain ⟨v1, v2, v3, v4, v5, -⟩ := addVertex_spec N.nL hnL N.labels (starts.getD i dflt) S h.labels
  generalize addVertexCode N.nL (starts.getD i dflt) S = S1 at *
  obtain ⟨w1, w2, w3, w4, w5, w6⟩ := addVertex_spec N.nL hnL (ins N.labels (starts.getD i dflt)) (ends.getD i dflt)
    ({ S1 with node_in := S1.ret } : NetLoc β) v1
  generalize addVertexCode N.nL (ends.getD i dflt) ({ S1 with node_in := S1.ret } : NetLoc β) = S2 at *
  refine ⟨w1, fun a v => ?_, fun a v => ?_, ?_⟩
  · dsimp only
    rw [w3, v3, h.outA, w6, w2, v2, out_addRecord]
  · dsimp only
    rw [w4, v4, h.innA, w6, w2, v2, addRecord, List.flatMap_append, List.flatMap_singleton]
    rfl
  · dsimp only
    rw [w5, v5, h.nedges, nedges_addRecord]

variable {ω : Type} [Weight ω]

/-- The invariant of the `Network` constructor: after the first `n` records the code's state holds the model's network
of those records.  `hnL`: with no layer the code gives every label index 0; `hlen`: the code reads `ends` by position
where the model zips. -/
theorem networkCode_prefix (directed : Bool) (starts ends : List β) (weights : List ω) (dflt : β)
    (hlen : starts.length = ends.length) (hnL : 0 < (build directed starts ends weights).nL) (s0 : NetLoc β)
    (h0 : HoldsNet (buildPrefix directed starts ends weights 0) s0) (n : Nat) (hn : n ≤ starts.length) :
    HoldsNet (buildPrefix directed starts ends weights n)
      (forRange n (networkCode_1 directed (build directed starts ends weights).nL starts ends dflt
        (fun i a => (chunkUnits weights (build directed starts ends weights).nL i).getD a 0)) s0) := by
  induction n with
  | zero => exact h0
  | succ n ih =>
    have hs : n < starts.length := hn
    have he : n < ends.length := hlen ▸ hn
    unfold forRange
    rw [List.range_succ, List.foldl_append, List.foldl_cons, List.foldl_nil,
      buildPrefix_succ directed starts ends weights n hs he, List.getElem_eq_getD dflt, List.getElem_eq_getD dflt]
    exact (ih (Nat.le_of_lt hn)).record hnL starts ends dflt _ n _ (chunkUnits_length_le ..) rfl

/-- The `Network` constructor, with `nL ≥ 1` layers and as many targets as sources: every layer holds the labels in order
of first appearance, and the out-lists, the in-lists and the edge counter are the model's. -/
theorem networkCode_refines (directed : Bool) (starts ends : List β) (weights : List ω) (dflt : β)
    (hlen : starts.length = ends.length) (hnL : 0 < (build directed starts ends weights).nL) (s0 : NetLoc β)
    (h0 : s0.idx_map = [] ∧ (∀ a, s0.vlab a = []) ∧ (∀ a v, s0.outA a v = []) ∧ (∀ a v, s0.innA a v = []) ∧
      s0.nedges = 0) :
    let net := build directed starts ends weights
    let s := networkCode directed net.nL starts ends dflt
      (fun i a => (chunkUnits weights net.nL i).getD a 0) s0
    (∀ a, a < net.nL → s.vlab a = net.labels) ∧
    (∀ l, s.idx_map.lookup l = if l ∈ net.labels then some (net.labels.idxOf l) else none) ∧
    (∀ a v, s.outA a v = net.out a v) ∧
    (directed = true → ∀ a v, s.innA a v = net.inn a v) ∧
    s.nedges = net.nedges ∧ s.nvertices = net.nV ∧ (directed = false → ∀ a v, s.innA a v = []) := by
  intro net
  obtain ⟨a1, a2, a3, a4, a5⟩ := h0
  have h := networkCode_prefix directed starts ends weights dflt hlen hnL s0
    ⟨⟨fun a _ => a2 a, fun l => by rw [a1]; rfl⟩, a3, a4, a5⟩ starts.length (Nat.le_refl _)
  rw [buildPrefix_length directed starts ends weights hlen] at h
  unfold networkCode
  generalize forRange starts.length _ s0 = S at h
  simp only [if_pos (show 0 < net.nL from hnL)]
  refine ⟨h.labels.1, h.labels.2, h.outA, fun hd a v => ?_, h.nedges, ?_, fun hd a v => ?_⟩
  · rw [h.innA a v, show net.directed = true from hd]; exact (inn_eq_flatMap net a v).symm
  · show (S.vlab 0).length = net.nV
    rw [h.labels.1 0 hnL, nV_eq_of_layer hnL]
  · rw [h.innA a v, show net.directed = false from hd]; simp [pieceIn]

theorem foldl_filter_append (l : List Nat) (c : Nat → Bool) (acc : List Nat) :
    l.foldl (fun acc i => if c i then acc ++ [i] else acc) acc = acc ++ l.filter c := by
  induction l generalizing acc with
  | nil => simp
  | cons x xs ih =>
    simp only [List.foldl_cons, List.filter_cons]
    by_cases h : c x <;> simp [h, ih]

theorem extractListsCode_eq (directed : Bool) (nL : Nat) (s : NetLoc β) :
    extractListsCode directed nL s =
      let U := s.u_list ++ (List.range s.nvertices).filter fun i => (List.range nL).any fun a => !(s.outA a i).isEmpty
      { s with
        u_list := U,
        v_list := if directed then
            s.v_list ++ (List.range s.nvertices).filter fun i => (List.range nL).any fun a => !(s.innA a i).isEmpty
          else U } := by
  unfold extractListsCode
  simp only [forRange]
  rw [forRange_eq _ (fun n => ({ s with
      u_list := s.u_list ++ (List.range n).filter fun i => (List.range nL).any fun a => !(s.outA a i).isEmpty,
      v_list := if directed then
          s.v_list ++ (List.range n).filter fun i => (List.range nL).any fun a => !(s.innA a i).isEmpty
        else s.v_list } : NetLoc β))]
  · cases directed <;> rfl
  · cases directed <;> simp
  · intro n
    simp only [List.range_succ, List.filter_append, List.filter_cons, List.filter_nil]
    generalize ((List.range nL).any fun a => !(s.outA a n).isEmpty) = bO
    cases directed <;> cases bO <;>
      simp only [Bool.false_eq_true, if_false, if_true, List.append_nil, List.append_assoc] <;>
      generalize ((List.range nL).any fun a => !(s.innA a n).isEmpty) = bI <;> cases bI <;>
      simp only [Bool.false_eq_true, if_false, if_true, List.append_nil]

theorem extractListsCode_refines {β' : Type} (net : Net β') (s : NetLoc β)
    (hn : s.nvertices = net.nV) (ho : ∀ a v, s.outA a v = net.out a v)
    (hi : net.directed = true → ∀ a v, s.innA a v = net.inn a v)
    (hu : s.u_list = []) (hv : s.v_list = []) :
    let s' := extractListsCode net.directed net.nL s
    s'.u_list = net.uList ∧ s'.v_list = net.vList := by
  rw [extractListsCode_eq]
  simp only [hu, hv, hn, ho, List.nil_append]
  unfold Net.vList Net.uList
  cases hd : net.directed
  · simp
  · simp only [hi hd, if_true, and_self]

theorem extractLabelsCode_eq (s : NetLoc β) :
    extractLabelsCode s = { s with labels := (s.vlab 0).take s.nvertices } := by
  unfold extractLabelsCode
  simp only [forRange]
  rw [forRange_eq _ (fun n => ({ s with labels := (s.vlab 0).take n } : NetLoc β))]
  · rfl
  · intro n
    simp only [List.take_one, List.head?_drop]
    rw [List.take_add_one]

theorem extractLabelsCode_refines (s : NetLoc β) (hn : s.nvertices = (s.vlab 0).length) :
    (extractLabelsCode s).labels = s.vlab 0 := by
  rw [extractLabelsCode_eq, hn]
  exact List.take_length

end
end MT.CodeRefine
