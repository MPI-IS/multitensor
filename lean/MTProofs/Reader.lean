/-
The character-level reader model (MT.Cli) read back on what a renderer writes: `digitsOf` renders a number,
`joinToks` a line, `joinLines` a file; `natOfL`, `tokensL` and `splitOnNL` invert them (for C13's round trip).
The two splitters are the library's: `tokensL` keeps the non-empty pieces of `splitOnP isSpace`, `splitOnNL` is `splitOn '\n'`.
-/
import MT.Cli
import Mathlib.Data.List.Basic
import Mathlib.Data.List.TakeWhile

namespace MTProofs.Reader
open MT MT.Cli

def digitChar (d : Nat) : Char := Char.ofNat ('0'.toNat + d)

def digitsOf (n : Nat) : List Char :=
  if h : n < 10 then [digitChar n] else digitsOf (n / 10) ++ [digitChar (n % 10)]
termination_by n
decreasing_by omega

/-- everything about the ten digit characters, by enumeration once -/
theorem digitChar_facts : ∀ d, d < 10 →
    (digitChar d).isDigit = true ∧ (digitChar d).toNat - '0'.toNat = d ∧ isSpace (digitChar d) = false := by
  decide

theorem digitChar_not_space {d : Nat} (h : d < 10) : isSpace (digitChar d) = false := (digitChar_facts d h).2.2

theorem digitsOf_lt {n : Nat} (h : n < 10) : digitsOf n = [digitChar n] := by rw [digitsOf, dif_pos h]

theorem digitsOf_ge {n : Nat} (h : ¬ n < 10) : digitsOf n = digitsOf (n / 10) ++ [digitChar (n % 10)] := by
  rw [digitsOf, dif_neg h]

theorem digitsOf_ne_nil (n : Nat) : digitsOf n ≠ [] := by
  by_cases h : n < 10
  · rw [digitsOf_lt h]; exact List.cons_ne_nil _ _
  · rw [digitsOf_ge h]; exact List.append_ne_nil_of_right_ne_nil _ (List.cons_ne_nil _ _)

theorem digitsOf_forall {P : Char → Prop} (hP : ∀ d, d < 10 → P (digitChar d)) (n : Nat) :
    ∀ c ∈ digitsOf n, P c := by
  induction n using digitsOf.induct with
  | case1 n h => rw [digitsOf_lt h]; exact fun c hc => List.mem_singleton.mp hc ▸ hP n h
  | case2 n h ih =>
    rw [digitsOf_ge h]
    exact fun c hc => (List.mem_append.mp hc).elim (ih c)
      (fun h1 => List.mem_singleton.mp h1 ▸ hP _ (Nat.mod_lt _ (by decide)))

theorem isNatL_digitsOf (n : Nat) : isNatL (digitsOf n) = true := by
  unfold isNatL
  simp only [Bool.and_eq_true, Bool.not_eq_eq_eq_not, Bool.not_true, List.isEmpty_eq_false_iff,
    List.all_eq_true]
  exact ⟨digitsOf_ne_nil n, digitsOf_forall (fun d h => (digitChar_facts d h).1) n⟩

theorem natOfL_append_single (l : List Char) (c : Char) :
    natOfL (l ++ [c]) = natOfL l * 10 + (c.toNat - '0'.toNat) := by
  unfold natOfL
  rw [List.foldl_append]
  rfl

theorem natOfL_digitsOf (n : Nat) : natOfL (digitsOf n) = n := by
  induction n using digitsOf.induct with
  | case1 n h => rw [digitsOf_lt h]; exact (Nat.zero_add _).trans (digitChar_facts n h).2.1
  | case2 n h ih =>
    rw [digitsOf_ge h, natOfL_append_single, ih, (digitChar_facts _ (Nat.mod_lt _ (by decide))).2.1]
    exact Nat.div_add_mod' n 10

def AllSpace (l : List Char) : Prop := ∀ c ∈ l, isSpace c = true
def NoSpace (l : List Char) : Prop := ∀ c ∈ l, isSpace c = false

theorem digits_noSpace (n : Nat) : NoSpace (digitsOf n) := digitsOf_forall (fun _ => digitChar_not_space) n

theorem ne_newline_of_not_space {c : Char} (h : isSpace c = false) : c ≠ '\n' := by
  rintro rfl; exact absurd h (by decide)

/-! the equations of `tokensL` (its definition looks one character ahead; nothing below unfolds it again) -/

theorem tokensL_cons_space {c : Char} {r : List Char} (hc : isSpace c = true) : tokensL (c :: r) = tokensL r := by
  simp only [tokensL, hc, ↓reduceIte]

theorem tokensL_single {c : Char} (hc : isSpace c = false) : tokensL [c] = [[c]] := by
  rw [tokensL]; simp [hc]

theorem tokensL_cons_cons_space {c d : Char} {r : List Char} (hc : isSpace c = false) (hd : isSpace d = true) :
    tokensL (c :: d :: r) = [c] :: tokensL (d :: r) := by
  conv_lhs => rw [tokensL]
  simp [hc, hd]

theorem tokensL_cons_cons_ns {c d : Char} {r : List Char} (hc : isSpace c = false) (hd : isSpace d = false) :
    tokensL (c :: d :: r) = match tokensL (d :: r) with
      | t :: ts => (c :: t) :: ts
      | [] => [[c]] := by
  conv_lhs => rw [tokensL]
  simp only [hc, hd, Bool.false_eq_true, ↓reduceIte]
  cases tokensL (d :: r) <;> rfl

theorem tokensL_eq_splitOnP (l : List Char) : tokensL l = (l.splitOnP isSpace).filter (· ≠ []) := by
  induction l with
  | nil => rfl
  | cons c cs ih =>
    rw [List.splitOnP_cons_eq_if_modifyHead]
    cases hc : isSpace c
    · rw [if_neg Bool.false_ne_true]
      cases cs with
      | nil => exact tokensL_single hc
      | cons d r =>
        rw [List.splitOnP_cons_eq_if_modifyHead] at ih ⊢
        cases hd : isSpace d
        · -- `c` joins the piece that `d` starts
          obtain ⟨p, ps, hp⟩ := List.exists_cons_of_ne_nil (List.splitOnP_ne_nil isSpace r)
          rw [tokensL_cons_cons_ns hc hd, ih, hd, if_neg Bool.false_ne_true, hp]; rfl
        · -- `c` is the piece that ends at the blank `d`
          rw [tokensL_cons_cons_space hc hd, ih, hd, if_pos rfl]; rfl
    · rw [if_pos rfl, tokensL_cons_space hc, ih]; rfl

theorem tokensL_append_sep (xs as : List Char) {s : Char} (hs : isSpace s = true) :
    tokensL (xs ++ s :: as) = tokensL xs ++ tokensL as := by
  rw [tokensL_eq_splitOnP, tokensL_eq_splitOnP, tokensL_eq_splitOnP, List.splitOnP_append_cons _ _ hs, List.filter_append]

theorem tokensL_noSpace {tok : List Char} (hne : tok ≠ []) (htok : NoSpace tok) : tokensL tok = [tok] := by
  rw [tokensL_eq_splitOnP, List.splitOnP_eq_singleton htok]
  exact List.filter_cons_of_pos (decide_eq_true hne)

theorem tokensL_space_prefix (ws rest : List Char) (h : AllSpace ws) : tokensL (ws ++ rest) = tokensL rest := by
  induction ws with
  | nil => rfl
  | cons c cs ih =>
    rw [List.cons_append, tokensL_cons_space (h c List.mem_cons_self), ih (fun d hd => h d (List.mem_cons_of_mem _ hd))]

theorem tokensL_allSpace (ws : List Char) (h : AllSpace ws) : tokensL ws = [] := by
  have := tokensL_space_prefix ws [] h
  rwa [List.append_nil] at this

theorem tokensL_append_space (x sp : List Char) (hsp : AllSpace sp) : tokensL (x ++ sp) = tokensL x := by
  cases sp with
  | nil => rw [List.append_nil]
  | cons s sp =>
    rw [tokensL_append_sep x sp (hsp s List.mem_cons_self),
      tokensL_allSpace sp (fun d hd => hsp d (List.mem_cons_of_mem _ hd)), List.append_nil]

theorem tokensL_tok_sep {tok sep : List Char} (rest : List Char) (hne : tok ≠ []) (htok : NoSpace tok)
    (hsne : sep ≠ []) (hsep : AllSpace sep) : tokensL (tok ++ sep ++ rest) = tok :: tokensL rest := by
  obtain ⟨b, s, rfl⟩ := List.exists_cons_of_ne_nil hsne
  rw [List.append_assoc, List.cons_append, tokensL_append_sep tok _ (hsep b List.mem_cons_self), tokensL_noSpace hne htok,
    tokensL_space_prefix s rest (fun d hd => hsep d (List.mem_cons_of_mem _ hd))]
  rfl

def joinToks : List (List Char × List Char) → List Char
  | [] => []
  | (tok, sep) :: rest => tok ++ sep ++ joinToks rest

/-- `tok₁ sep₁ … tokₙ trail` is the shape a rendered line has. -/
theorem tokensL_joinToks_zip (toks seps : List (List Char)) (trail : List Char)
    (hlen : toks.length = seps.length + 1) (htok : ∀ t ∈ toks, t ≠ [] ∧ NoSpace t)
    (hseps : ∀ s ∈ seps, s ≠ [] ∧ AllSpace s) (htrail : AllSpace trail) :
    tokensL (joinToks (toks.zip (seps ++ [trail]))) = toks := by
  induction seps generalizing toks with
  | nil =>
    obtain ⟨t, rfl⟩ := List.length_eq_one_iff.mp hlen
    have ht := htok t List.mem_cons_self
    show tokensL (t ++ trail ++ []) = [t]
    rw [List.append_nil, tokensL_append_space t trail htrail, tokensL_noSpace ht.1 ht.2]
  | cons s ss ih =>
    obtain ⟨t, ts, rfl⟩ := List.exists_cons_of_length_eq_add_one hlen
    have ht := htok t List.mem_cons_self
    have hs := hseps s List.mem_cons_self
    show tokensL (t ++ s ++ joinToks (ts.zip (ss ++ [trail]))) = t :: ts
    rw [tokensL_tok_sep _ ht.1 ht.2 hs.1 hs.2, ih ts (Nat.succ.inj hlen)
      (fun x hx => htok x (List.mem_cons_of_mem _ hx)) (fun x hx => hseps x (List.mem_cons_of_mem _ hx))]

theorem mem_joinToks {x : Char} {items : List (List Char × List Char)} (h : x ∈ joinToks items) :
    ∃ p ∈ items, x ∈ p.1 ∨ x ∈ p.2 := by
  induction items with
  | nil => cases h
  | cons p ps ih =>
    rcases List.mem_append.mp (show x ∈ p.1 ++ p.2 ++ joinToks ps from h) with h1 | h1
    · exact ⟨p, List.mem_cons_self, List.mem_append.mp h1⟩
    · obtain ⟨q, hq, hx⟩ := ih h1; exact ⟨q, List.mem_cons_of_mem _ hq, hx⟩

theorem splitOnNL_eq_splitOn (l : List Char) : splitOnNL l = l.splitOn '\n' := by
  induction l with
  | nil => rfl
  | cons c cs ih =>
    obtain ⟨p, ps, hp⟩ := List.exists_cons_of_ne_nil (List.splitOn_ne_nil '\n' cs)
    rw [splitOnNL, ih, List.splitOn_cons_eq_if_modifyHead, hp]
    by_cases hc : c = '\n'
    · rw [if_pos hc, if_pos (beq_iff_eq.mpr hc)]
    · rw [if_neg hc, if_neg (mt beq_iff_eq.mp hc)]; rfl

def joinLines : List (List Char) → List Char
  | [] => []
  | [l] => l
  | l :: ls => l ++ '\n' :: joinLines ls

theorem joinLines_eq_intercalate (ls : List (List Char)) : joinLines ls = ['\n'].intercalate ls := by
  induction ls with
  | nil => rfl
  | cons l ls ih =>
    cases ls with
    | nil => exact List.intercalate_singleton.symm
    | cons l' ls =>
      show l ++ '\n' :: joinLines (l' :: ls) = _
      rw [ih, List.intercalate_cons_cons, List.append_assoc]; rfl

theorem splitOnNL_joinLines (ls : List (List Char)) (hne : ls ≠ []) (h : ∀ l ∈ ls, ∀ c ∈ l, c ≠ '\n') :
    splitOnNL (joinLines ls) = ls := by
  rw [splitOnNL_eq_splitOn, joinLines_eq_intercalate]
  exact List.splitOn_intercalate '\n' (fun l hl hc => h l hl _ hc rfl) hne

theorem stripTrailingSpaces_spec (l : List Char) :
    ∃ sp, (∀ c ∈ sp, c = ' ') ∧ l = stripTrailingSpaces l ++ sp := by
  unfold stripTrailingSpaces
  refine ⟨(l.reverse.takeWhile (· = ' ')).reverse, ?_, ?_⟩
  · intro c hc
    rw [List.mem_reverse] at hc
    simpa using List.mem_takeWhile_imp hc
  · rw [← List.reverse_append, List.takeWhile_append_dropWhile, List.reverse_reverse]

theorem tokensL_strip (l : List Char) : tokensL (stripTrailingSpaces l) = tokensL l := by
  obtain ⟨sp, hsp, hl⟩ := stripTrailingSpaces_spec l
  conv_rhs => rw [hl]
  rw [tokensL_append_space]
  intro c hc
  rw [hsp c hc]; decide

/-- empty pieces are dropped before a line is read: for a line reader that finds nothing on an empty line this
changes nothing -/
theorem filterMap_fileLinesL {β : Type} (f : List Char → Option β) (hf : f [] = none) (content : List Char) :
    (fileLinesL content).filterMap f = (splitOnNL content).filterMap (fun l => f (stripTrailingSpaces l)) := by
  unfold fileLinesL
  rw [List.filterMap_map, List.filterMap_filter]
  refine List.filterMap_congr fun l _ => ?_
  by_cases hl : l = []
  · subst hl; exact hf.symm
  · rw [if_pos (decide_eq_true hl)]; rfl

end MTProofs.Reader
