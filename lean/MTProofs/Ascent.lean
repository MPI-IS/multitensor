/-
The Poisson log-likelihood is multilinear in (u, v, w); with the other blocks held fixed it is a sum of
independent MM problems, one per layer for the affinity and one per row for a membership matrix. Each is
`MM.ascent` on the index set of that layer or row, given by a description of its rates (`ascent_rate`).
-/
import MTProofs.MM
import MTProofs.MassBalance
import MTProofs.Likelihood
import Mathlib.Tactic.Ring

namespace MTProofs
open MT Finset

theorem sum_mul_csum (assort : Bool) (K : Nat) (f : Nat → ℝ) (g : Nat → Nat → ℝ) :
    ∑ k ∈ range K, f k * csum assort K k (g k) = gsum assort K (fun k q => f k * g k q) := by
  unfold csum gsum
  cases assort
  · simp only [Bool.false_eq_true, ↓reduceIte, mul_sum]
  · simp only [↓reduceIte]

theorem csum_nonneg {assort : Bool} {K k : Nat} {f : Nat → ℝ} (h : ∀ q, 0 ≤ f q) : 0 ≤ csum assort K k f := by
  unfold csum; split
  · exact h k
  · exact sum_nonneg fun q _ => h q

/-- `MM.ascent` in the form an instance meets it: the edges come as pairs, `r x` describes the rates `S x`, the
penalty is the total rate. -/
theorem ascent_rate {P E₁ E₂ : Type} [DecidableEq P] (sP : Finset P) (s₁ : Finset E₁) (s₂ : Finset E₂)
    (a : E₁ → E₂ → ℝ) (c : E₁ → E₂ → P → ℝ) (d : P → ℝ) (m : P → Prop) [DecidablePred m] (x : P → ℝ)
    (r : (P → ℝ) → E₁ → E₂ → ℝ) (x' : P → ℝ)
    (hr : ∀ x e₁ e₂, ∑ p ∈ sP, x p * c e₁ e₂ p = r x e₁ e₂)
    (hpen : ∀ x, ∑ p ∈ sP, x p * d p = ∑ e₁ ∈ s₁, ∑ e₂ ∈ s₂, r x e₁ e₂)
    (hx' : ∀ p ∈ sP, x' p =
      if m p then x p / d p * ∑ e₁ ∈ s₁, ∑ e₂ ∈ s₂, a e₁ e₂ * (c e₁ e₂ p / r x e₁ e₂) else x p)
    (ha : ∀ e₁ e₂, 0 ≤ a e₁ e₂) (hc : ∀ e₁ e₂ p, 0 ≤ c e₁ e₂ p) (hx : ∀ p ∈ sP, 0 ≤ x p)
    (hd : ∀ p ∈ sP, m p → 0 < d p) (hpos : ∀ e₁ ∈ s₁, ∀ e₂ ∈ s₂, 0 < a e₁ e₂ → 0 < r x e₁ e₂) :
    ∑ e₁ ∈ s₁, ∑ e₂ ∈ s₂, (a e₁ e₂ * Real.log (r x e₁ e₂) - r x e₁ e₂) ≤
      ∑ e₁ ∈ s₁, ∑ e₂ ∈ s₂, (a e₁ e₂ * Real.log (r x' e₁ e₂) - r x' e₁ e₂) := by
  have hF : ∀ x, MM.F sP (s₁ ×ˢ s₂) (fun e => a e.1 e.2) (fun e => c e.1 e.2) d x =
      ∑ e₁ ∈ s₁, ∑ e₂ ∈ s₂, (a e₁ e₂ * Real.log (r x e₁ e₂) - r x e₁ e₂) := fun x => by
    rw [MM.F, hpen, sum_product]
    simp only [MM.S, hr, sum_sub_distrib]
  have hu : ∀ p ∈ sP, x' p = MM.upd sP (s₁ ×ˢ s₂) (fun e => a e.1 e.2) (fun e => c e.1 e.2) d m x p :=
    fun p hp => by
      rw [hx' p hp, MM.upd, sum_product]
      simp only [MM.S, hr, mul_div_assoc]
  calc _ = MM.F sP (s₁ ×ˢ s₂) (fun e => a e.1 e.2) (fun e => c e.1 e.2) d x := (hF x).symm
    _ ≤ MM.F sP (s₁ ×ˢ s₂) _ _ d (MM.upd sP (s₁ ×ˢ s₂) _ _ d m x) :=
        MM.ascent sP _ _ _ d m x (fun _ _ => ha _ _) (fun _ _ _ _ => hc _ _ _) hx hd fun e he h => by
          rw [MM.S, hr]; exact hpos e.1 (mem_product.1 he).1 e.2 (mem_product.1 he).2 h
    _ = MM.F sP (s₁ ×ˢ s₂) _ _ d x' := (MM.F_congr sP _ _ _ d _ x' hu).symm
    _ = _ := hF x'

section obj
variable (assort : Bool) (K L N : Nat) (out : Nat → Nat → List Nat)
  (u v : Nat → Nat → ℝ) (wf : Nat → Nat → Nat → ℝ)

/-- `poissonLL` without the guard -/
noncomputable def freeLL : ℝ :=
  ∑ a ∈ range L, ∑ i ∈ range N, ∑ j ∈ range N,
    (((out a i).count j : ℝ) * Real.log (rate assort K wf v u i j a) - rate assort K wf v u i j a)

def RatesAbove : Prop :=
  ∀ a i j, a < L → i < N → j < N → 0 < (out a i).count j → ε < rate assort K wf v u i j a

variable {assort K L N out u v wf} in
theorem poissonLL_eq_free (h : RatesAbove assort K L N out u v wf) :
    poissonLL assort K L N out u v wf = freeLL assort K L N out u v wf := by
  unfold poissonLL freeLL
  exact sum_congr rfl fun a ha => sum_congr rfl fun i hi => sum_congr rfl fun j hj =>
    cellLL_eq_free (h a i j (mem_range.mp ha) (mem_range.mp hi) (mem_range.mp hj))

end obj

section ustep
variable (assort : Bool) (K L N : Nat) (num den : List Nat) (B : Nat → Nat → Nat → ℝ)
  (wf : Nat → Nat → Nat → ℝ) (Y X : Nat → Nat → ℝ)

/-- objective seen from the matrix being updated: `B a i j` = multiplicity of the edge seen from `i` -/
noncomputable def objV (X : Nat → Nat → ℝ) : ℝ :=
  ∑ a ∈ range L, ∑ i ∈ range N, ∑ j ∈ range N,
    (B a i j * Real.log (rate assort K wf Y X i j a) - rate assort K wf Y X i j a)

/-- unguarded, untruncated masked update -/
noncomputable def mmV (m : Nat → Nat → Prop) [∀ i k, Decidable (m i k)] (i k : Nat) : ℝ :=
  if m i k then
    X i k / specZ assort K L den wf Y k *
      ∑ a ∈ range L, ∑ j ∈ range N, B a i j *
        (csum assort K k (fun q => Y j q * wf k q a) / rate assort K wf Y X i j a)
  else X i k

theorem sum_specZ_eq_rate (x : Nat → ℝ) (hD : ∀ l, sumL den (fun j => Y j l) = ∑ j ∈ range N, Y j l) :
    ∑ k ∈ range K, x k * specZ assort K L den wf Y k =
      ∑ a ∈ range L, ∑ j ∈ range N, gsum assort K fun k l => x k * Y j l * wf k l a := by
  unfold specZ
  simp only [hD]
  rw [sum_mul_csum]
  simp_rw [sum_gsum]
  apply gsum_congr
  intro k q _ _
  rw [sum_mul_sum, mul_sum]
  apply sum_congr rfl; intro a _
  rw [mul_sum]
  apply sum_congr rfl; intro j _
  ring

theorem mmV_ascent (m : Nat → Nat → Prop) [∀ i k, Decidable (m i k)]
    (hD : ∀ l, sumL den (fun j => Y j l) = ∑ j ∈ range N, Y j l)
    (hB : ∀ a i j, 0 ≤ B a i j) (hX : ∀ i k, 0 ≤ X i k) (hY : ∀ j q, 0 ≤ Y j q) (hw : ∀ k q a, 0 ≤ wf k q a)
    (hZ : ∀ i k, m i k → 0 < specZ assort K L den wf Y k)
    (hR : ∀ a i j, a < L → i < N → j < N → 0 < B a i j → 0 < rate assort K wf Y X i j a) :
    objV assort K L N B wf Y X ≤ objV assort K L N B wf Y (mmV assort K L N den B wf Y X m) := by
  rw [objV, objV, sum_comm, sum_comm (s := range L)]
  refine sum_le_sum fun i hi => ?_
  -- row `i` alone: coordinates `k < K`, edges `(a, j)`, `c = Σ_q Y_jq ω_kq^a`, penalty `Z_k`
  exact ascent_rate (range K) (range L) (range N) (fun a j => B a i j)
    (fun a j k => csum assort K k fun q => Y j q * wf k q a) (specZ assort K L den wf Y) (m i) (X i)
    (fun x a j => gsum assort K fun k l => x k * Y j l * wf k l a)
    (mmV assort K L N den B wf Y X m i)
    (fun x a j => (sum_mul_csum assort K x fun k q => Y j q * wf k q a).trans
      (gsum_congr fun _ _ _ _ => by ring))
    (fun x => sum_specZ_eq_rate assort K L N den wf Y x hD)
    (fun k _ => rfl)
    (fun _ _ => hB _ _ _) (fun a j k => csum_nonneg fun q => mul_nonneg (hY _ _) (hw _ _ _))
    (fun k _ => hX _ _) (fun k _ hk => hZ _ _ hk)
    (fun a ha j hj hae => hR a i j (mem_range.1 ha) (mem_range.1 hi) (mem_range.1 hj) hae)

end ustep

section wstep
variable (assort : Bool) (K L N : Nat) (uList vList : List Nat) (A : Nat → Nat → Nat → ℝ)
  (u v : Nat → Nat → ℝ) (w : Nat → Nat → Nat → ℝ)

noncomputable def objW (w : Nat → Nat → Nat → ℝ) : ℝ :=
  ∑ a ∈ range L, ∑ i ∈ range N, ∑ j ∈ range N,
    (A a i j * Real.log (rate assort K w v u i j a) - rate assort K w v u i j a)

noncomputable def mmW (m : Nat → Nat → Nat → Prop) [∀ k q a, Decidable (m k q a)] (k q a : Nat) : ℝ :=
  if m k q a then
    w k q a / specWZ uList vList u v k q *
      ∑ i ∈ range N, ∑ j ∈ range N, A a i j * (u i k * v j q / rate assort K w v u i j a)
  else w k q a

theorem mmW_ascent (m : Nat → Nat → Nat → Prop) [∀ k q a, Decidable (m k q a)]
    (hU : ∀ k, sumL uList (fun i => u i k) = ∑ i ∈ range N, u i k)
    (hV : ∀ q, sumL vList (fun j => v j q) = ∑ j ∈ range N, v j q)
    (hA : ∀ a i j, 0 ≤ A a i j) (hu : ∀ i k, 0 ≤ u i k) (hv : ∀ j q, 0 ≤ v j q) (hw : ∀ k q a, 0 ≤ w k q a)
    (hZ : ∀ k q a, m k q a → 0 < specWZ uList vList u v k q)
    (hR : ∀ a i j, a < L → i < N → j < N → 0 < A a i j → 0 < rate assort K w v u i j a) :
    objW assort K L N A u v w ≤ objW assort K L N A u v (mmW assort K N uList vList A u v w m) := by
  refine sum_le_sum fun a ha => ?_
  -- layer `a` alone: coordinates the group pairs, edges `(i, j)`, `c = u_ik v_jq`, penalty `specWZ`
  exact ascent_rate (gP assort K) (range N) (range N) (fun i j => A a i j)
    (fun i j p => u i p.1 * v j p.2) (fun p => specWZ uList vList u v p.1 p.2)
    (fun p => m p.1 p.2 a) (fun p => w p.1 p.2 a)
    (fun x i j => gsum assort K fun k q => u i k * v j q * x (k, q))
    (fun p => mmW assort K N uList vList A u v w m p.1 p.2 a)
    (fun x i j => by rw [gsum_eq_sum_gP]; exact sum_congr rfl fun p _ => by ring)
    (fun x => ((sum_rate_eq_gsum assort K N uList vList u v a (fun k q _ => x (k, q)) hU hV).trans
      (gsum_eq_sum_gP assort K fun k q => x (k, q) * specWZ uList vList u v k q)).symm)
    (fun p _ => rfl)
    (fun _ _ => hA _ _ _) (fun _ _ _ => mul_nonneg (hu _ _) (hv _ _)) (fun p _ => hw _ _ _)
    (fun p _ hp => hZ _ _ _ hp)
    (fun i hi j hj hae => hR a i j (mem_range.1 ha) (mem_range.1 hi) (mem_range.1 hj) hae)

end wstep

end MTProofs
