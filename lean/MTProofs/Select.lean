/-
`runAll` is a left fold over `List.range r`: its closed form `runAll_eq` is an induction over `r`, the other facts
are read off the closed form (any scalar type).  Over a linear order: `maxL2` is the maximum, and the realization
`lastAdopted` names is the first to attain it.
-/
import MT.Main
import Mathlib.Order.Defs.LinearOrder
import Mathlib.Tactic.Linarith

namespace MTProofs
open MT

section
variable {α : Type} [LT α] [DecidableLT α] [MTExtra α]

/-- the realization whose factors the caller's containers hold after `r` realizations: the last one that beat the
report's maximum so far -/
def lastAdopted (L : Nat → α) : Nat → Option Nat
  | 0 => none
  | r + 1 => if maxL2 ((List.range r).map L) < L r then some r else lastAdopted L r

end

section
variable {α : Type} [Add α] [Sub α] [Mul α] [Div α] [LT α] [DecidableLT α] [MTExtra α]
variable (assort : Bool) (ik : InitKind) (K N : Nat) (nv : NetView) (maxIt nConv : Nat)
  (evalL : Nat → Nat → State α → α) (userW : Tens α) (d : Nat → α)

def outAt (i pos : Nat) : RealOut α :=
  runRealization assort ik K N nv maxIt nConv (evalL i) userW (fun t => d (pos + t))

/-- stream position at the start of realization `i` -/
def posSeq : Nat → Nat
  | 0 => 0
  | i + 1 => posSeq i + (outAt assort ik K N nv maxIt nConv evalL userW d i (posSeq i)).used

def outcomeOf (i : Nat) : RealOut α :=
  outAt assort ik K N nv maxIt nConv evalL userW d i (posSeq assort ik K N nv maxIt nConv evalL userW d i)

/-- what is swapped into the caller's containers when realization `o` is adopted: in undirected
mode the in-membership container is not touched -/
def adoptState (prior : State α) (o : RealOut α) : State α :=
  if nv.directed then o.final else { o.final with v := prior.v }

theorem runAll_succ (prior : State α) (r : Nat) :
    runAll assort ik K N nv (r + 1) maxIt nConv evalL userW d prior =
      runOne assort ik K N nv maxIt nConv evalL userW d
        (runAll assort ik K N nv r maxIt nConv evalL userW d prior) r := by
  unfold runAll
  rw [List.range_succ, List.foldl_append]
  rfl

theorem runAll_zero (prior : State α) :
    runAll assort ik K N nv 0 maxIt nConv evalL userW d prior =
      { best := prior, report := ⟨[], [], []⟩, pos := 0, adopted := [] } := rfl

theorem runOne_eq (acc : RunAcc α) (i : Nat) :
    runOne assort ik K N nv maxIt nConv evalL userW d acc i =
      let o := outAt assort ik K N nv maxIt nConv evalL userW d i acc.pos
      { best := if maxL2 acc.report.L2s < o.L2 then adoptState nv acc.best o else acc.best,
        report := ⟨acc.report.iters ++ [o.iters], acc.report.reasons ++ [o.reason], acc.report.L2s ++ [o.L2]⟩,
        pos := acc.pos + o.used,
        adopted := acc.adopted ++ [decide (maxL2 acc.report.L2s < o.L2)] } := by
  unfold runOne
  simp only [decide_eq_true_eq]
  rfl

theorem adoptState_adoptState (prior : State α) (o' o : RealOut α) :
    adoptState nv (adoptState nv prior o') o = adoptState nv prior o := by
  unfold adoptState; split <;> rfl

theorem runAll_eq (prior : State α) (r : Nat) :
    runAll assort ik K N nv r maxIt nConv evalL userW d prior =
      let O := outcomeOf assort ik K N nv maxIt nConv evalL userW d
      { best := (lastAdopted (fun i => (O i).L2) r).elim prior fun i => adoptState nv prior (O i),
        report := ⟨(List.range r).map fun i => (O i).iters, (List.range r).map fun i => (O i).reason,
          (List.range r).map fun i => (O i).L2⟩,
        pos := posSeq assort ik K N nv maxIt nConv evalL userW d r,
        adopted := (List.range r).map fun i =>
          decide (maxL2 ((List.range i).map fun j => (O j).L2) < (O i).L2) } := by
  induction r with
  | zero => rfl
  | succ r ih =>
    rw [runAll_succ, ih, runOne_eq]
    simp only [List.range_succ, List.map_append, List.map_cons, List.map_nil, lastAdopted]
    congr 1
    unfold outcomeOf
    split
    · cases lastAdopted (fun i => (outAt assort ik K N nv maxIt nConv evalL userW d i
          (posSeq assort ik K N nv maxIt nConv evalL userW d i)).L2) r with
      | none => rfl
      | some i => exact adoptState_adoptState nv prior _ _
    · rfl

theorem runAll_best (prior : State α) (r : Nat) :
    (runAll assort ik K N nv r maxIt nConv evalL userW d prior).best =
      ((lastAdopted (fun i => (outcomeOf assort ik K N nv maxIt nConv evalL userW d i).L2) r).elim prior
        fun i => adoptState nv prior (outcomeOf assort ik K N nv maxIt nConv evalL userW d i)) :=
  congrArg RunAcc.best (runAll_eq assort ik K N nv maxIt nConv evalL userW d prior r)

theorem runAll_report (prior : State α) (r : Nat) :
    let a := runAll assort ik K N nv r maxIt nConv evalL userW d prior
    let O := outcomeOf assort ik K N nv maxIt nConv evalL userW d
    a.pos = posSeq assort ik K N nv maxIt nConv evalL userW d r ∧
    a.report.L2s = (List.range r).map (fun i => (O i).L2) ∧
    a.report.iters = (List.range r).map (fun i => (O i).iters) ∧
    a.report.reasons = (List.range r).map (fun i => (O i).reason) := by
  rw [runAll_eq]
  exact ⟨rfl, rfl, rfl, rfl⟩

theorem runAll_v_undirected (hdir : nv.directed = false) (prior : State α) (r : Nat) :
    (runAll assort ik K N nv r maxIt nConv evalL userW d prior).best.v = prior.v := by
  rw [runAll_best]
  cases lastAdopted (fun i => (outcomeOf assort ik K N nv maxIt nConv evalL userW d i).L2) r with
  | none => rfl
  | some i => simp only [Option.elim, adoptState, hdir, Bool.false_eq_true, ↓reduceIte]

end

section linear
variable {α : Type} [LinearOrder α] [MTExtra α]

theorem maxL2_nil : maxL2 ([] : List α) = MTExtra.lowest := rfl

theorem maxL2_singleton (x : α) : maxL2 [x] = x := rfl

theorem maxL2_append_singleton (l : List α) (hl : l ≠ []) (x : α) :
    maxL2 (l ++ [x]) = if maxL2 l < x then x else maxL2 l := by
  cases l with
  | nil => exact absurd rfl hl
  | cons y ys =>
    show List.foldl (fun best y => if best < y then y else best) y (ys ++ [x]) = _
    rw [List.foldl_append]
    rfl

/-- On a non-empty list `maxL2` is core's `List.max?`, whose characterisation this is. -/
theorem maxL2_spec (l : List α) (hl : l ≠ []) : maxL2 l ∈ l ∧ ∀ y ∈ l, y ≤ maxL2 l := by
  cases l with
  | nil => exact absurd rfl hl
  | cons x xs =>
    have hmax : (fun best y : α => if best < y then y else best) = max :=
      funext₂ fun a b => (max_def_lt a b).symm
    refine List.max?_eq_some_iff.1 ?_
    rw [List.max?_cons', maxL2, hmax]

def IsFirstMax (L : Nat → α) (r i : Nat) : Prop :=
  i < r ∧ (∀ j, j < r → L j ≤ L i) ∧ ∀ j, j < i → L j < L i

omit [MTExtra α] in
theorem IsFirstMax.succ {L : Nat → α} {r i : Nat} (h : IsFirstMax L r i) :
    IsFirstMax L (r + 1) (if L i < L r then r else i) := by
  obtain ⟨hi, hmax, hfirst⟩ := h
  split
  · next hlt =>
    refine ⟨Nat.lt_succ_self r, fun j hj => ?_, fun j hj => lt_of_le_of_lt (hmax j hj) hlt⟩
    rcases Nat.lt_succ_iff_lt_or_eq.mp hj with h | rfl
    · exact le_of_lt (lt_of_le_of_lt (hmax j h) hlt)
    · exact le_refl _
  · next hlt =>
    refine ⟨Nat.lt_succ_of_lt hi, fun j hj => ?_, hfirst⟩
    rcases Nat.lt_succ_iff_lt_or_eq.mp hj with h | rfl
    · exact hmax j h
    · exact not_lt.mp hlt

/-- When the first likelihood exceeds `lowest()`, the last adopted realization is the first maximum, and the report's
maximum is its likelihood. -/
theorem lastAdopted_isFirstMax (L : Nat → α) {r : Nat} (hr : 1 ≤ r) (H : MTExtra.lowest < L 0) :
    ∃ i, IsFirstMax L r i ∧ lastAdopted L r = some i ∧ maxL2 ((List.range r).map L) = L i := by
  induction r, hr using Nat.le_induction with
  | base =>
    refine ⟨0, ⟨Nat.zero_lt_one, fun j hj => ?_, fun j hj => absurd hj (Nat.not_lt_zero j)⟩, if_pos H, rfl⟩
    rw [Nat.lt_one_iff.mp hj]
  | succ r hr ih =>
    obtain ⟨i, hi, ha, hm⟩ := ih
    have hne : (List.range r).map L ≠ [] := by
      rw [Ne, List.map_eq_nil_iff, List.range_eq_nil]; omega
    refine ⟨_, hi.succ, ?_, ?_⟩
    · rw [lastAdopted, hm, ha]; split <;> rfl
    · rw [List.range_succ, List.map_append, List.map_singleton, maxL2_append_singleton _ hne, hm]; split <;> rfl

end linear

end MTProofs
