import MTProofs.Tensor
import MT.Solver
import Mathlib.Logic.Function.Iterate

namespace MTProofs
open MT

variable {α : Type} [Add α] [Mul α] [Div α] [LT α] [DecidableLT α] [MTExtra α]

section vertices
variable (assort : Bool) (K L N : Nat) (numList denList : List Nat) (nbr : Nat → Nat → List Nat)
  (wf : Nat → Nat → Nat → α) (fixedOld : Nat → Nat → α) (old : Tens α)

@[simp] theorem updateVertices_R : (updateVertices assort K L N numList denList nbr wf fixedOld old).R = N := rfl
@[simp] theorem updateVertices_C : (updateVertices assort K L N numList denList nbr wf fixedOld old).C = K := rfl
@[simp] theorem updateVertices_T : (updateVertices assort K L N numList denList nbr wf fixedOld old).T = 1 := rfl

theorem updateVertices_sized : (updateVertices assort K L N numList denList nbr wf fixedOld old).Sized :=
  ofFn_sized _ _ _ _

variable {assort K L N numList denList nbr wf fixedOld old} in
theorem updateVertices_get {i k : Nat} (hi : i < N) (hk : k < K) :
    (updateVertices assort K L N numList denList nbr wf fixedOld old).get i k 0 =
      updVEntry assort K L numList denList nbr wf fixedOld (fun i k => old.get i k 0) i k :=
  get_ofFn _ _ _ _ hi hk Nat.one_pos

variable {assort K L N numList denList nbr wf fixedOld old} in
theorem updateVertices_other_rows {i k : Nat} (hi : i < N) (hk : k < K) (hni : i ∉ numList) :
    (updateVertices assort K L N numList denList nbr wf fixedOld old).get i k 0 = old.get i k 0 := by
  rw [updateVertices_get hi hk]
  exact if_neg fun hc => hni hc.2.1

end vertices

theorem wView_general (t : Bool) (W : Tens α) (k l a : Nat) :
    wView false t W k l a = if t then W.get l k a else W.get k l a := rfl

theorem wView_assort (t : Bool) (W : Tens α) (k l a : Nat) : wView true t W k l a = W.get k 0 a := rfl

section affinity
variable (assort : Bool) (K L N : Nat) (uList vList : List Nat) (out : Nat → Nat → List Nat)
  (u v : Nat → Nat → α) (W : Tens α)

@[simp] theorem updateAffinity_R : (updateAffinity assort K L N uList vList out u v W).R = K := by
  cases assort <;> rfl

@[simp] theorem updateAffinity_C :
    (updateAffinity assort K L N uList vList out u v W).C = if assort then 1 else K := by
  cases assort <;> rfl

@[simp] theorem updateAffinity_T : (updateAffinity assort K L N uList vList out u v W).T = L := by
  cases assort <;> rfl

variable {K L N uList vList out u v W} in
theorem updateAffinity_get_general {k q a : Nat} (hk : k < K) (hq : q < K) (ha : a < L) :
    (updateAffinity false K L N uList vList out u v W).get k q a =
      updWEntry false K N uList vList out u v (wView false false W) k q a := by
  unfold updateAffinity; rw [if_neg Bool.false_ne_true]; exact get_ofFn _ _ _ _ hk hq ha

variable {K L N uList vList out u v W} in
theorem updateAffinity_get_assort {k a : Nat} (hk : k < K) (ha : a < L) :
    (updateAffinity true K L N uList vList out u v W).get k 0 a =
      updWEntry true K N uList vList out u v (wView true false W) k k a := by
  unfold updateAffinity; rw [if_pos rfl]; exact get_ofFn _ _ _ _ hk Nat.one_pos ha

variable {assort K L N uList vList out u v W} in
theorem updateAffinity_view {k q a : Nat} (hk : k < K) (hq : q < K) (ha : a < L)
    (hdiag : assort = true → k = q) :
    wView assort false (updateAffinity assort K L N uList vList out u v W) k q a =
      updWEntry assort K N uList vList out u v (wView assort false W) k q a := by
  cases assort
  · rw [wView_general, if_neg Bool.false_ne_true, updateAffinity_get_general hk hq ha]
  · cases hdiag rfl
    rw [wView_assort, updateAffinity_get_assort hk ha]

end affinity

section steps
variable (assort : Bool) (K : Nat) (nv : NetView) (s : State α)

/-- the in-membership matrix in use: `v`, or `u` itself when undirected -/
abbrev fixedOf (nv : NetView) (s : State α) : Tens α := if nv.directed then s.v else s.u

theorem stepU_u : (stepU assort K nv s).u =
    updateVertices assort K nv.nL s.u.R nv.uList nv.vList nv.out (wView assort false s.w)
      (fun i k => (fixedOf nv s).get i k 0) s.u := rfl
@[simp] theorem stepU_v : (stepU assort K nv s).v = s.v := rfl
@[simp] theorem stepU_w : (stepU assort K nv s).w = s.w := rfl

variable {assort K nv s} in
theorem stepV_of_directed (hd : nv.directed = true) : stepV assort K nv s =
    { s with
      v := updateVertices assort K nv.nL s.v.R nv.vList nv.uList nv.inn (wView assort true s.w)
        (fun i k => s.u.get i k 0) s.v } := if_pos hd
variable {assort K nv s} in
theorem stepV_of_undirected (hd : nv.directed = false) : stepV assort K nv s = s :=
  if_neg (by simp [hd])
@[simp] theorem stepV_u : (stepV assort K nv s).u = s.u := by unfold stepV; split <;> rfl
@[simp] theorem stepV_w : (stepV assort K nv s).w = s.w := by unfold stepV; split <;> rfl
@[simp] theorem stepV_v_R : (stepV assort K nv s).v.R = s.v.R := by unfold stepV; split <;> rfl

@[simp] theorem stepW_u : (stepW assort K nv s).u = s.u := rfl
@[simp] theorem stepW_v : (stepW assort K nv s).v = s.v := rfl
theorem stepW_w : (stepW assort K nv s).w =
    updateAffinity assort K nv.nL s.u.R nv.uList nv.vList nv.out (fun i k => s.u.get i k 0)
      (fun i k => (fixedOf nv s).get i k 0) s.w := rfl

@[simp] theorem stepU_u_R : (stepU assort K nv s).u.R = s.u.R := rfl
@[simp] theorem sweep_u_R : (sweep assort K nv s).u.R = s.u.R := by
  simp only [sweep, stepW_u, stepV_u, stepU_u_R]
@[simp] theorem sweep_v_R : (sweep assort K nv s).v.R = s.v.R := by
  simp only [sweep, stepW_v, stepV_v_R, stepU_v]
@[simp] theorem sweep_w_R : (sweep assort K nv s).w.R = K := updateAffinity_R ..
@[simp] theorem sweep_w_C : (sweep assort K nv s).w.C = if assort then 1 else K := updateAffinity_C ..
@[simp] theorem sweep_w_T : (sweep assort K nv s).w.T = nv.nL := updateAffinity_T ..

/-- Undirected, a sweep never reads the in-membership slot and hands it on as it found it. -/
theorem sweep_with_v (hdir : nv.directed = false) (v' : Tens α) :
    sweep assort K nv { s with v := v' } = { sweep assort K nv s with v := v' } := by
  unfold sweep stepW stepV stepU
  simp only [hdir, Bool.false_eq_true, if_false]

theorem iterate_sweep_induction (P : State α → Prop) {s : State α}
    (hstep : ∀ s', s'.u.R = s.u.R → P s' → P (sweep assort K nv s')) (h : P s) (n : Nat) :
    P ((sweep assort K nv)^[n] s) ∧ ((sweep assort K nv)^[n] s).u.R = s.u.R :=
  Function.Iterate.rec (fun s' => P s' ∧ s'.u.R = s.u.R) ⟨h, rfl⟩
    (fun s' hs => ⟨hstep s' hs.2 hs.1, (sweep_u_R ..).trans hs.2⟩) n

end steps

end MTProofs
