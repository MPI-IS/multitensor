/-
The likelihood loop of the model (threaded accumulator) in closed form.
-/
import MTProofs.Refine
import Mathlib.Tactic.Ring

namespace MTProofs
open MT Finset

section
variable (assort : Bool) (K L N : Nat) (out : Nat → Nat → List Nat)
  (u v : Nat → Nat → ℝ) (wf : Nat → Nat → Nat → ℝ)

/-- `A·ln M − M` of one `(a,i,j)` cell, the logarithm only for observed pairs with rate above the guard -/
noncomputable def cellLL (a i j : Nat) : ℝ :=
  (if ε < rate assort K wf v u i j a ∧ 0 < (out a i).count j then
      ((out a i).count j : ℝ) * Real.log (rate assort K wf v u i j a) else 0)
    - rate assort K wf v u i j a

noncomputable def poissonLL : ℝ :=
  ∑ a ∈ range L, ∑ i ∈ range N, ∑ j ∈ range N, cellLL assort K out u v wf a i j

variable {assort K out u v wf} in
/-- Where the guard holds for an observed pair the cell is the unguarded one: on an unobserved pair the logarithm has
weight zero. -/
theorem cellLL_eq_free {a i j : Nat} (h : 0 < (out a i).count j → ε < rate assort K wf v u i j a) :
    cellLL assort K out u v wf a i j =
      ((out a i).count j : ℝ) * Real.log (rate assort K wf v u i j a) - rate assort K wf v u i j a := by
  unfold cellLL
  by_cases hc : 0 < (out a i).count j
  · rw [if_pos ⟨h hc, hc⟩]
  · rw [if_neg fun hh => hc hh.2, Nat.eq_zero_of_not_pos hc, Nat.cast_zero, zero_mul]

theorem likCell_fold (h : Bool) (t : Nat × Nat → ℝ) (ps : List (Nat × Nat)) (acc : ℝ × ℝ) :
    ps.foldl (fun (acc : ℝ × ℝ) p => (acc.1 - t p, if h then acc.2 + t p else acc.2)) acc =
      (acc.1 - (ps.map t).sum, if h then acc.2 + (ps.map t).sum else acc.2) := by
  induction ps generalizing acc with
  | nil => cases h <;> simp
  | cons p ps ih =>
    rw [List.foldl_cons, ih]
    cases h
    · simp only [Bool.false_eq_true, ↓reduceIte, List.map_cons, List.sum_cons, Prod.mk.injEq, and_true]
      ring
    · simp only [↓reduceIte, List.map_cons, List.sum_cons, Prod.mk.injEq]
      constructor <;> ring

theorem likCell_eq (l : ℝ) (a i j : Nat) :
    likCell assort K out u v wf l a i j = l + cellLL assort K out u v wf a i j := by
  unfold likCell cellLL
  simp only
  rw [likCell_fold]
  have hsum : ((gpairs assort K).map fun p => u i p.1 * v j p.2 * wf p.1 p.2 a).sum =
      rate assort K wf v u i j a := by
    rw [← sumL_eq_sum]
    exact gsum_eq_sumL assort K (fun m l => u i m * v j l * wf m l a)
  simp only [zero_eq, hsum, zero_add, ofNat_eq, log_eq]
  by_cases hc : (out a i).contains j = true
  · have hpos : 0 < (out a i).count j := List.count_pos_iff.mpr (by simpa using hc)
    simp only [hc, ↓reduceIte, hpos, and_true]
    split <;> ring
  · have h0 : (out a i).count j = 0 := by
      rw [List.count_eq_zero]
      simpa using hc
    have hne : ¬ (ε < (0 : ℝ)) := not_lt.mpr (le_of_lt eps_pos)
    simp only [hc, Bool.false_eq_true, ↓reduceIte, hne, h0, lt_self_iff_false, and_false]
    ring

theorem foldl_range_add (n : Nat) (c : Nat → ℝ) (g : ℝ → Nat → ℝ) (hg : ∀ l x, g l x = l + c x) (l0 : ℝ) :
    (List.range n).foldl g l0 = l0 + ∑ x ∈ range n, c x := by
  induction n with
  | zero => simp
  | succ n ih =>
    rw [List.range_succ, List.foldl_append, ih, List.foldl_cons, List.foldl_nil, hg, sum_range_succ, add_assoc]

/-- C06: the likelihood loop computes the Poisson log-likelihood of the factors. -/
theorem likelihood_eq_poisson :
    likelihood assort K L N out u v wf = poissonLL assort K L N out u v wf := by
  unfold likelihood poissonLL
  rw [foldl_range_add L (fun a => ∑ i ∈ range N, ∑ j ∈ range N, cellLL assort K out u v wf a i j)]
  · simp
  · intro l a
    rw [foldl_range_add N (fun i => ∑ j ∈ range N, cellLL assort K out u v wf a i j)]
    intro l i
    rw [foldl_range_add N (fun j => cellLL assort K out u v wf a i j)]
    intro l j
    exact likCell_eq assort K out u v wf l a i j

end

theorem stateLik_eq (assort : Bool) (K : Nat) (nv : NetView) (s : State ℝ) :
    stateLik assort K nv s = poissonLL assort K nv.nL s.u.R nv.out (fun i k => s.u.get i k 0)
      (fun i k => (if nv.directed then s.v else s.u).get i k 0) (wView assort false s.w) :=
  likelihood_eq_poisson assort K nv.nL s.u.R nv.out _ _ _

end MTProofs
