/-
The well-formed state over ℝ (shapes, non-negativity, zero rows) is kept by each of the two update functions,
hence by every step and sweep; a property kept by every sweep holds of the state a realization ends with
(`final_induction`, any scalar type).
-/
import MTProofs.AscentTie
import MTProps.C02
import MTProofs.Control

namespace MTProofs
open MT Finset MTProps.C02

def Tens.AllNonneg (t : Tens ℝ) : Prop := ∀ i j a, 0 ≤ t.get i j a

theorem ofFn_allNonneg {R C T : Nat} {f : Nat → Nat → Nat → ℝ}
    (h : ∀ i j a, i < R → j < C → a < T → 0 ≤ f i j a) : Tens.AllNonneg (Tens.ofFn R C T f) :=
  get_ofFn_ind (0 ≤ ·) le_rfl h

theorem zeros_allNonneg (R C T : Nat) : Tens.AllNonneg (Tens.zeros R C T : Tens ℝ) :=
  fun i j a => (zeros_get R C T i j a).ge

theorem wView_nonneg (assort t : Bool) {W : Tens ℝ} (h : Tens.AllNonneg W) (k l a : Nat) :
    0 ≤ wView assort t W k l a := by
  unfold wView; split
  · exact h _ _ _
  · split <;> exact h _ _ _

theorem zero_row_all_cols {t : Tens ℝ} (hs : t.Sized) (hT : t.T = 1) {i : Nat}
    (h : ∀ k, k < t.C → t.get i k 0 = 0) (k : Nat) : t.get i k 0 = 0 :=
  if hk : k < t.C then h k hk else get_col_oob hs hT (Nat.le_of_not_lt hk)

section updates
variable (assort : Bool) (K L N : Nat)

variable {assort K L N} in
/-- the multiplicative form keeps the sign -/
theorem updateVertices_allNonneg {num den : List Nat} {nbr : Nat → Nat → List Nat}
    (hN : ∀ a i, ∀ j ∈ nbr a i, j < N) {wf : Nat → Nat → Nat → ℝ} {Y : Nat → Nat → ℝ} {old : Tens ℝ}
    (ho : Tens.AllNonneg old) (hY : ∀ j q, 0 ≤ Y j q) (hw : ∀ k q a, 0 ≤ wf k q a) :
    Tens.AllNonneg (updateVertices assort K L N num den nbr wf Y old) :=
  ofFn_allNonneg fun i k _ _ _ _ => by
    rw [updVEntry_eq_spec assort K L N _ _ _ _ _ _ hN]
    exact specVEntry_nonneg (fun i k => ho i k 0) hY hw i k

variable {assort K L N} in
theorem updateAffinity_allNonneg {uList vList : List Nat} {out : Nat → Nat → List Nat}
    (hN : ∀ a i, ∀ j ∈ out a i, j < N) {u v : Nat → Nat → ℝ} {W : Tens ℝ}
    (hu : ∀ i k, 0 ≤ u i k) (hv : ∀ j q, 0 ≤ v j q) (hW : Tens.AllNonneg W) :
    Tens.AllNonneg (updateAffinity assort K L N uList vList out u v W) := by
  have hnn : ∀ k q a, 0 ≤ updWEntry assort K N uList vList out u v (wView assort false W) k q a :=
    fun k q a => by
      rw [updWEntry_eq_spec assort K N _ _ _ _ _ _ hN]
      exact specWEntry_nonneg hu hv (wView_nonneg assort false hW) k q a
  unfold updateAffinity
  split
  · exact ofFn_allNonneg fun k _ a _ _ _ => hnn k k a
  · exact ofFn_allNonneg fun k q a _ _ _ => hnn k q a

end updates

section sweep
variable (assort : Bool) (K : Nat) (nv : NetView) (s : State ℝ)

structure WFState : Prop where
  uC : s.u.C = K
  uT : s.u.T = 1
  vShape : nv.directed = true → s.v.R = s.u.R ∧ s.v.C = K ∧ s.v.T = 1
  wR : s.w.R = K
  wC : s.w.C = if assort then 1 else K
  wT : s.w.T = nv.nL
  uSized : s.u.Sized
  vSized : nv.directed = true → s.v.Sized
  uNonneg : Tens.AllNonneg s.u
  vNonneg : Tens.AllNonneg s.v
  wNonneg : Tens.AllNonneg s.w
  uZero : ∀ i k, i < s.u.R → k < K → i ∉ nv.uList → s.u.get i k 0 = 0
  vZero : nv.directed = true → ∀ j q, j < s.u.R → q < K → j ∉ nv.vList → s.v.get j q 0 = 0

variable {assort K nv s}

theorem fixed_nonneg (h : WFState assort K nv s) : Tens.AllNonneg (fixedOf nv s) := by
  unfold fixedOf; split
  · exact h.vNonneg
  · exact h.uNonneg

theorem WFState.uZero' (h : WFState assort K nv s) {i : Nat} (hi : i < s.u.R) (hni : i ∉ nv.uList) (k : Nat) :
    s.u.get i k 0 = 0 :=
  zero_row_all_cols h.uSized h.uT (fun k hk => h.uZero i k hi (h.uC ▸ hk) hni) k

theorem WFState.vZero' (h : WFState assort K nv s) (hd : nv.directed = true) {j : Nat} (hj : j < s.u.R)
    (hnj : j ∉ nv.vList) (q : Nat) : s.v.get j q 0 = 0 :=
  have ⟨_, hvC, hvT⟩ := h.vShape hd
  zero_row_all_cols (h.vSized hd) hvT (fun q hq => h.vZero hd j q hj (hvC ▸ hq) hnj) q

theorem stepU_wf (hwf : ViewWF nv s.u.R) (h : WFState assort K nv s) :
    WFState assort K nv (stepU assort K nv s) :=
  { h with
    uC := updateVertices_C ..
    uT := updateVertices_T ..
    uSized := updateVertices_sized ..
    uNonneg := updateVertices_allNonneg hwf.1 h.uNonneg
      (fun j q => fixed_nonneg h j q 0) (wView_nonneg assort false h.wNonneg)
    uZero := fun i k hi hk hni => (updateVertices_other_rows hi hk hni).trans (h.uZero i k hi hk hni) }

theorem stepV_wf (hwf : ViewWF nv s.u.R) (h : WFState assort K nv s) :
    WFState assort K nv (stepV assort K nv s) := by
  cases hd : nv.directed
  · rw [stepV_of_undirected hd]; exact h
  · obtain ⟨hvR, hvC, hvT⟩ := h.vShape hd
    rw [stepV_of_directed hd]
    exact { h with
      vShape := fun _ => ⟨(updateVertices_R ..).trans hvR, updateVertices_C .., updateVertices_T ..⟩
      vSized := fun _ => updateVertices_sized ..
      vNonneg := updateVertices_allNonneg (hvR ▸ hwf.2) h.vNonneg
        (fun j q => h.uNonneg j q 0) (wView_nonneg assort true h.wNonneg)
      vZero := fun _ j q hj hq hnj =>
        (updateVertices_other_rows (hvR ▸ hj) hq hnj).trans (h.vZero hd j q hj hq hnj) }

theorem stepW_wf (hwf : ViewWF nv s.u.R) (h : WFState assort K nv s) :
    WFState assort K nv (stepW assort K nv s) :=
  { h with
    wR := updateAffinity_R ..
    wC := updateAffinity_C ..
    wT := updateAffinity_T ..
    wNonneg := updateAffinity_allNonneg hwf.1 (fun i k => h.uNonneg i k 0)
      (fun j q => fixed_nonneg h j q 0) h.wNonneg }

variable (assort K nv s) in
theorem sweep_wf (hwf : ViewWF nv s.u.R) (h : WFState assort K nv s) : WFState assort K nv (sweep assort K nv s) := by
  unfold sweep
  exact stepW_wf (by rw [stepV_u]; exact hwf) (stepV_wf hwf (stepU_wf hwf h))

end sweep

section trajectory
variable {α : Type} [Add α] [Sub α] [Mul α] [Div α] [LT α] [DecidableLT α] [MTExtra α]
variable (assort : Bool) (K : Nat) (nv : NetView)

/-- The state a realization ends with is the start after as many sweeps as the loop counted. -/
theorem final_induction (P : State α → Prop) (ik : InitKind) (N maxIt nConv : Nat)
    (evalL : Nat → State α → α) (userW : Tens α) (d : Nat → α)
    (hstep : ∀ s, s.u.R = N → P s → P (sweep assort K nv s))
    (h : P (realizationStart assort ik K N nv userW d).1) :
    P (runRealization assort ik K N nv maxIt nConv evalL userW d).final ∧
      (runRealization assort ik K N nv maxIt nConv evalL userW d).final.u.R = N := by
  have hb : (runRealization assort ik K N nv maxIt nConv evalL userW d).final = (sweep assort K nv)^[_] _ :=
    (runLoop_start assort K nv maxIt nConv evalL (realizationStart assort ik K N nv userW d).1).2.2.1
  rw [hb]
  exact iterate_sweep_induction assort K nv P hstep h _

end trajectory

end MTProofs
