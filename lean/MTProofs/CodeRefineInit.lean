/-
The three initialisers of initialization.hpp (loop nests translated from the source on every run,
MT/Generated/InitCode.lean): which entries each nest rewrites, from which draw, and how far it moves the
position in the stream (`Fills`).
-/
import MT.Init
import MT.Generated.InitCode
import MTProofs.Folds

set_option linter.unusedSectionVars false

namespace MT.CodeRefine
open MT MT.Imp MT.Gen

def drawsBefore (wd : Nat → Nat) : Nat → Nat
  | 0 => 0
  | n + 1 => drawsBefore wd n + wd n

theorem drawsBefore_const (c n : Nat) : drawsBefore (fun _ => c) n = n * c := by
  induction n with
  | zero => simp [drawsBefore]
  | succ n ih => simp [drawsBefore, ih, Nat.succ_mul]

section fills
variable {α S X : Type} (proj : S → (X → α) × Nat) (V : Nat → α → α)

/-- `f` rewrites exactly the entries in `W`, entry `x` from its old value and the stream position `r x` places after
the position on entry, and moves the position by `n` -/
def Fills (f : S → S) (W : X → Prop) [DecidablePred W] (r : X → Nat) (n : Nat) : Prop :=
  ∀ s, proj (f s) =
    ((fun x => if W x then V ((proj s).2 + r x) ((proj s).1 x) else (proj s).1 x), (proj s).2 + n)

variable {proj V}

theorem Fills.congr {f : S → S} {W W' : X → Prop} [DecidablePred W] [DecidablePred W'] {r r' : X → Nat} {n n' : Nat}
    (h : Fills proj V f W r n) (hW : ∀ x, W' x ↔ W x) (hr : ∀ x, W x → r' x = r x) (hn : n' = n) :
    Fills proj V f W' r' n' := by
  intro s
  rw [h s, hn]
  congr 1
  funext x
  by_cases hx : W x
  · rw [if_pos hx, if_pos ((hW x).2 hx), hr x hx]
  · rw [if_neg hx, if_neg (fun h' => hx ((hW x).1 h'))]

theorem Fills.entry {f : S → S} {W : X → Prop} [DecidablePred W] {r : X → Nat} {n : Nat} (h : Fills proj V f W r n)
    (s : S) (x : X) :
    (proj (f s)).1 x = if W x then V ((proj s).2 + r x) ((proj s).1 x) else (proj s).1 x :=
  congrFun (congrArg Prod.fst (h s)) x

theorem Fills.pos {f : S → S} {W : X → Prop} [DecidablePred W] {r : X → Nat} {n : Nat} (h : Fills proj V f W r n)
    (s : S) : (proj (f s)).2 = (proj s).2 + n :=
  congrArg Prod.snd (h s)

theorem Fills.skip {W : X → Prop} [DecidablePred W] {r : X → Nat} (hW : ∀ x, ¬ W x) : Fills proj V id W r 0 :=
  fun _ => Prod.ext (funext fun x => (if_neg (hW x)).symm) rfl

/-- One step after another: they write disjoint sets of entries, and the second starts where the first stopped.
`Fills.range` and `Fills.list` are inductions with this as their step. -/
theorem Fills.seq {f g : S → S} {W₁ W₂ W : X → Prop} [DecidablePred W₁] [DecidablePred W₂] [DecidablePred W]
    {r₁ r₂ r : X → Nat} {n₁ n₂ : Nat} (hf : Fills proj V f W₁ r₁ n₁) (hg : Fills proj V g W₂ r₂ n₂)
    (hd : ∀ x, W₁ x → ¬ W₂ x) (hW : ∀ x, W x ↔ W₁ x ∨ W₂ x)
    (h₁ : ∀ x, W₁ x → r x = r₁ x) (h₂ : ∀ x, W₂ x → r x = n₁ + r₂ x) :
    Fills proj V (fun s => g (f s)) W r (n₁ + n₂) := by
  intro s
  rw [hg (f s), hf s]
  refine Prod.ext (funext fun x => ?_) (Nat.add_assoc _ _ _)
  dsimp only
  by_cases h2 : W₂ x
  · rw [if_pos h2, if_neg (fun h1 => hd x h1 h2), if_pos ((hW x).2 (Or.inr h2)), h₂ x h2, Nat.add_assoc]
  · rw [if_neg h2]
    by_cases h1 : W₁ x
    · rw [if_pos h1, if_pos ((hW x).2 (Or.inl h1)), h₁ x h1]
    · rw [if_neg h1, if_neg (fun h => ((hW x).1 h).elim h1 h2)]

/-- `sel` tells from an entry the one pass that can write it; an entry is filled at the position of its pass plus its
position in it. -/
theorem Fills.range {body : Nat → S → S} {W : Nat → X → Prop} [∀ t, DecidablePred (W t)] {r : Nat → X → Nat}
    {wd : Nat → Nat} (sel : X → Nat) (hsel : ∀ t x, W t x → sel x = t) (N : Nat)
    (hb : ∀ t, t < N → Fills proj V (body t) (W t) (r t) (wd t)) :
    Fills proj V (forRange N body) (fun x => sel x < N ∧ W (sel x) x)
      (fun x => drawsBefore wd (sel x) + r (sel x) x) (drawsBefore wd N) := by
  induction N with
  | zero => exact Fills.skip fun x h => Nat.not_lt_zero _ h.1
  | succ N ih =>
    intro s
    rw [forRange, List.range_succ, List.foldl_append]
    refine Fills.seq (ih fun t ht => hb t (Nat.lt_succ_of_lt ht)) (hb N (Nat.lt_succ_self N))
      (fun x h1 h2 => Nat.lt_irrefl N (hsel N x h2 ▸ h1.1)) (fun x => ?_) (fun x _ => rfl)
      (fun x hw => by rw [hsel N x hw]) s
    constructor
    · rintro ⟨hlt, hw⟩
      exact (Nat.lt_succ_iff_lt_or_eq.1 hlt).imp (⟨·, hw⟩) (fun e : sel x = N => e ▸ hw)
    · rintro (⟨hlt, hw⟩ | hw)
      · exact ⟨Nat.lt_succ_of_lt hlt, hw⟩
      · rw [hsel N x hw]; exact ⟨Nat.lt_succ_self N, hw⟩

theorem Fills.from {body : Nat → S → S} {W : Nat → X → Prop} [∀ t, DecidablePred (W t)] {r : Nat → X → Nat}
    {wd : Nat → Nat} (sel : X → Nat) (hsel : ∀ t x, W t x → sel x = t) (lo hi : Nat)
    (hb : ∀ j, lo ≤ j → j < hi → Fills proj V (body j) (W j) (r j) (wd j)) :
    Fills proj V (forFrom lo hi body) (fun x => (lo ≤ sel x ∧ sel x < hi) ∧ W (sel x) x)
      (fun x => drawsBefore (fun t => wd (lo + t)) (sel x - lo) + r (sel x) x) (drawsBefore (fun t => wd (lo + t)) (hi - lo)) := by
  have h := Fills.range (proj := proj) (V := V) (body := fun t => body (lo + t)) (W := fun t => W (lo + t))
    (r := fun t => r (lo + t)) (wd := fun t => wd (lo + t)) (fun x => sel x - lo)
    (fun t x hx => by rw [hsel _ x hx, Nat.add_sub_cancel_left]) (hi - lo)
    (fun t ht => hb (lo + t) (Nat.le_add_right _ _) (Nat.add_lt_of_lt_sub' ht))
  have h' : Fills proj V (forRange (hi - lo) fun t => body (lo + t)) (fun x => (lo ≤ sel x ∧ sel x < hi) ∧ W (sel x) x)
      (fun x => drawsBefore (fun t => wd (lo + t)) (sel x - lo) + r (sel x) x) (drawsBefore (fun t => wd (lo + t)) (hi - lo)) := by
    refine h.congr (fun x => ⟨fun ⟨h1, h3⟩ => ?_, fun ⟨h1, h3⟩ => ?_⟩) (fun x hx => ?_) rfl
    · have e : lo + (sel x - lo) = sel x := Nat.add_sub_cancel' h1.1
      exact ⟨Nat.sub_lt_sub_right h1.1 h1.2, e.symm ▸ h3⟩
    · have e : lo + (sel x - lo) = sel x := (hsel _ x h3).symm
      exact ⟨⟨e ▸ Nat.le_add_right _ _, e ▸ Nat.add_lt_of_lt_sub' h1⟩, e ▸ h3⟩
    · simp only [(hsel _ x hx.2).symm]
  intro s
  unfold forFrom
  rw [List.foldl_map]
  exact h' s

theorem idxOf_cons_ne' (a b : Nat) (l : List Nat) (h : b ≠ a) : (b :: l).idxOf a = l.idxOf a + 1 := by
  rw [List.idxOf_cons, beq_false_of_ne h, cond_false]

theorem idxOf_cons_self' (a : Nat) (l : List Nat) : (a :: l).idxOf a = 0 :=
  List.idxOf_cons_self

theorem Fills.list {body : Nat → S → S} {W : Nat → X → Prop} [∀ t, DecidablePred (W t)] {r : Nat → X → Nat}
    {c : Nat} (sel : X → Nat) (hsel : ∀ t x, W t x → sel x = t) (l : List Nat) (hl : l.Nodup)
    (hb : ∀ j, j ∈ l → Fills proj V (body j) (W j) (r j) c) :
    Fills proj V (forList l body) (fun x => sel x ∈ l ∧ W (sel x) x)
      (fun x => l.idxOf (sel x) * c + r (sel x) x) (l.length * c) := by
  induction l with
  | nil => rw [List.length_nil, Nat.zero_mul]; exact Fills.skip fun x h => List.not_mem_nil h.1
  | cons j l ih =>
    have hn := List.nodup_cons.1 hl
    rw [List.length_cons, Nat.succ_mul, Nat.add_comm]
    refine Fills.seq (f := body j) (g := forList l body) (hb j List.mem_cons_self)
      (ih hn.2 fun j' hj' => hb j' (List.mem_cons_of_mem _ hj'))
      (fun x h1 h2 => hn.1 (hsel j x h1 ▸ h2.1)) (fun x => ?_)
      (fun x hw => by rw [hsel j x hw, idxOf_cons_self', Nat.zero_mul, Nat.zero_add])
      (fun x h2 => by
        rw [idxOf_cons_ne' _ _ l (fun e : j = sel x => hn.1 (e ▸ h2.1)), Nat.succ_mul, Nat.add_comm _ c, Nat.add_assoc])
    constructor
    · rintro ⟨hm, hw⟩
      exact (List.mem_cons.1 hm).imp (fun e : sel x = j => e ▸ hw) (⟨·, hw⟩)
    · rintro (hw | ⟨hm, hw⟩)
      · rw [hsel j x hw]; exact ⟨List.mem_cons_self, hw⟩
      · exact ⟨List.mem_cons_of_mem _ hm, hw⟩

end fills

section
variable {α : Type} [Add α] [Sub α] [Mul α] [Div α] [LT α] [DecidableLT α] [MTExtra α]

theorem ite_or_same {γ : Type} (p q : Prop) [Decidable p] [Decidable q] (v w : γ) :
    (if p ∨ q then v else w) = if p then v else if q then v else w := by
  by_cases hp : p <;> by_cases hq : q <;> simp [hp, hq]

def viewT2 (s : InitLoc α) : (Nat × Nat → α) × Nat := (un2 s.T2, s.pos)

def viewT3 (s : InitLoc α) : (Nat × Nat × Nat → α) × Nat := (un3 s.T3, s.pos)

def viewRows (s : RowsLoc α) : (Nat × Nat → α) × Nat := (un2 s.mat, s.pos)

/-- `init_tensor_rows_random`: column by column, each listed row receives the next draw. -/
theorem initRowsCode_refines (ncols : Nat) (elems : List Nat) (hl : elems.Nodup) (d : Nat → α) :
    Fills viewRows (fun p _ => d p) (initRowsCode ncols elems d) (fun x => x.2 < ncols ∧ x.1 ∈ elems)
      (fun x => x.2 * elems.length + elems.idxOf x.1) (ncols * elems.length) := by
  have hb : ∀ k j, Fills viewRows (fun p _ => d p) (initRowsCode_1_1 ncols elems d k j)
      (fun x => x = (j, k)) (fun _ => 0) 1 := by
    intro k j s
    unfold initRowsCode_1_1 viewRows
    refine Prod.ext (funext fun x => ?_) rfl
    simp only [un2_setAt2_eq, Nat.add_zero]
  have h : Fills viewRows (fun p _ => d p) (initRowsCode ncols elems d) _ _ _ :=
    Fills.range (fun x : Nat × Nat => x.2) (fun _ _ h => congrArg (·.2) h.2) ncols fun k _ =>
      Fills.list (fun x : Nat × Nat => x.1) (fun _ _ h => congrArg (·.1) h) elems hl fun j _ => hb k j
  exact h.congr (fun x => ⟨fun ⟨h1, h3⟩ => ⟨h1, h3, rfl⟩, fun ⟨h1, h3, _⟩ => ⟨h1, h3⟩⟩)
    (fun x _ => by simp only [drawsBefore_const, Nat.mul_one, Nat.add_zero])
    (by simp only [drawsBefore_const, Nat.mul_one])

/-- The assortative nest of both affinity initialisers: layer by layer, one pass per entry of the stored diagonal. -/
theorem fills_diagonal {V : Nat → α → α} {body : Nat → Nat → InitLoc α → InitLoc α} (K L : Nat)
    (hb : ∀ a k, Fills viewT2 V (body a k) (fun x => x = (k, a)) (fun _ => 0) 1) :
    Fills viewT2 V (forRange L fun a => forRange K (body a)) (fun x => x.1 < K ∧ x.2 < L) (fun x => x.2 * K + x.1)
      (L * K) := by
  have h : Fills viewT2 V (forRange L fun a => forRange K (body a)) _ _ _ :=
    Fills.range (fun x : Nat × Nat => x.2) (fun _ _ h => congrArg (·.2) h.2) L fun a _ =>
      Fills.range (fun x : Nat × Nat => x.1) (fun _ _ h => congrArg (·.1) h) K fun k _ => hb a k
  exact h.congr (fun x => ⟨fun ⟨h1, h3⟩ => ⟨h3, h1, rfl⟩, fun ⟨h3, h1, _⟩ => ⟨h1, h3⟩⟩)
    (fun x _ => by simp only [drawsBefore_const, Nat.mul_one, Nat.add_zero])
    (by simp only [drawsBefore_const, Nat.mul_one])

section fromInitial
variable (K L : Nat) (d : Nat → α)

theorem fromInitial_body (a k q : Nat) :
    Fills viewT3 (fun p old => old + MTExtra.noise * d p) (initFromInitialCode_1_1_1 false K L d a k q)
      (fun x => x = (k, q, a)) (fun _ => 0) 1 := by
  intro s
  unfold initFromInitialCode_1_1_1 viewT3
  refine Prod.ext (funext fun x => ?_) rfl
  simp only [un3_setAt3_eq, Nat.add_zero]
  split
  · next h => rw [h]; rfl
  · rfl

/-- `init_symmetric_tensor_from_initial`: every entry receives its own draw, in the order layer / row / column, scaled
by `EPS_NOISE`. -/
theorem initFromInitialCode_refines_general :
    Fills viewT3 (fun p old => old + MTExtra.noise * d p) (initFromInitialCode false K L d)
      (fun x => x.1 < K ∧ x.2.1 < K ∧ x.2.2 < L) (fun x => x.2.2 * K * K + x.1 * K + x.2.1) (L * K * K) := by
  have h : Fills viewT3 (fun p old => old + MTExtra.noise * d p) (initFromInitialCode false K L d) _ _ _ :=
    Fills.range (fun x => x.2.2) (fun _ _ h => congrArg (·.2.2) h.2.2) L fun a _ =>
      Fills.range (fun x => x.1) (fun _ _ h => congrArg (·.1) h.2) K fun k _ =>
        Fills.range (fun x => x.2.1) (fun _ _ h => congrArg (·.2.1) h) K fun q _ => fromInitial_body K L d a k q
  exact h.congr (fun x => ⟨fun ⟨h1, h2, h3⟩ => ⟨h3, h1, h2, rfl⟩, fun ⟨h3, h1, h2, _⟩ => ⟨h1, h2, h3⟩⟩)
    (fun x _ => by simp only [drawsBefore_const, Nat.mul_one, Nat.add_zero, Nat.mul_assoc, Nat.add_assoc])
    (by simp only [drawsBefore_const, Nat.mul_one, Nat.mul_assoc])

theorem initFromInitialCode_refines_assortative :
    Fills viewT2 (fun p old => old + MTExtra.noise * d p) (initFromInitialCode true K L d)
      (fun x => x.1 < K ∧ x.2 < L) (fun x => x.2 * K + x.1) (L * K) :=
  fills_diagonal (body := initFromInitialCode_1_1 true K L d) K L fun a k s => by
    unfold initFromInitialCode_1_1 viewT2
    refine Prod.ext (funext fun x => ?_) rfl
    simp only [if_true, un2_setAt2_eq, Nat.add_zero]
    split
    · next h => rw [h]; rfl
    · rfl

end fromInitial

/-- what the entries `(i,j,a)` and `(j,i,a)` have in common: the mirrored loop writes one such class per pass -/
def symKey (x : Nat × Nat × Nat) : Nat × Nat × Nat := (min x.1 x.2.1, max x.1 x.2.1, x.2.2)

theorem symKey_eq_iff {i j : Nat} (hij : i ≤ j) (a : Nat) (x : Nat × Nat × Nat) :
    symKey x = (i, j, a) ↔ (x = (i, j, a) ∨ x = (j, i, a)) := by
  obtain ⟨x1, x2, x3⟩ := x
  simp only [symKey, Prod.mk.injEq]
  constructor
  · rintro ⟨h1, h2, h3⟩
    rcases Nat.le_total x1 x2 with h | h
    · rw [Nat.min_eq_left h] at h1; rw [Nat.max_eq_right h] at h2; exact Or.inl ⟨h1, h2, h3⟩
    · rw [Nat.min_eq_right h] at h1; rw [Nat.max_eq_left h] at h2; exact Or.inr ⟨h2, h1, h3⟩
  · rintro (⟨rfl, rfl, rfl⟩ | ⟨rfl, rfl, rfl⟩)
    · exact ⟨Nat.min_eq_left hij, Nat.max_eq_right hij, rfl⟩
    · exact ⟨Nat.min_eq_right hij, Nat.max_eq_left hij, rfl⟩

section random
variable (K L : Nat) (d : Nat → α)

theorem drawsBefore_rowStart (K i : Nat) : drawsBefore (fun t => K - t) i = rowStart K i := by
  induction i with
  | zero => rfl
  | succ i ih => simp [drawsBefore, rowStart, ih]

/-- `init_symmetric_tensor_random`, assortative: one draw per entry, layer by layer. -/
theorem initRandomCode_refines_assortative (ncols : Nat) :
    Fills viewT2 (fun p _ => d p) (initRandomCode true K ncols L d)
      (fun x => x.1 < K ∧ x.2 < L) (fun x => x.2 * K + x.1) (L * K) :=
  fills_diagonal (body := initRandomCode_1_1 true K ncols L d) K L fun a i s => by
    unfold initRandomCode_1_1 viewT2
    refine Prod.ext (funext fun x => ?_) rfl
    simp only [if_true, un2_setAt2_eq, Nat.add_zero]

theorem random_body (a i j : Nat) (hij : i ≤ j) :
    Fills viewT3 (fun p _ => d p) (initRandomCode_1_1_1 false K K L d a i j) (fun x => symKey x = (i, j, a))
      (fun _ => 0) 1 := by
  intro s
  unfold initRandomCode_1_1_1 viewT3
  refine Prod.ext (funext fun x => ?_) ?_
  · simp only [symKey_eq_iff hij, ite_or_same]
    split
    · next h =>
      subst h
      by_cases hx : x = (i, i, a) <;> simp only [un3_setAt3_eq, hx, if_true, if_false, Nat.add_zero]
    · simp only [un3_setAt3_eq, setAt3_self, Nat.add_zero]
  · split <;> rfl

/-- The upper triangle of every layer is drawn row by row and mirrored: `(i,j)` and `(j,i)` share the draw at
`triPos`. -/
theorem initRandomCode_refines_general :
    Fills viewT3 (fun p _ => d p) (initRandomCode false K K L d) (fun x => x.1 < K ∧ x.2.1 < K ∧ x.2.2 < L)
      (fun x => x.2.2 * rowStart K K + triPos K x.1 x.2.1) (L * rowStart K K) := by
  have h : Fills viewT3 (fun p _ => d p) (initRandomCode false K K L d) _ _ _ :=
    Fills.range (fun x => x.2.2) (fun _ _ h => congrArg (·.2.2) h.2.2) L fun a _ =>
      Fills.range (fun x => min x.1 x.2.1) (fun _ _ h => congrArg (·.1) h.2) K fun i _ =>
        Fills.from (fun x => max x.1 x.2.1) (fun _ _ h => congrArg (·.2.1) h) i K fun j hj _ =>
          random_body K L d a i j hj
  exact h.congr
    (fun x => ⟨fun ⟨h1, h2, h3⟩ => ⟨h3, Nat.lt_of_le_of_lt (Nat.min_le_left _ _) h1,
        ⟨Nat.le_trans (Nat.min_le_left _ _) (Nat.le_max_left _ _), Nat.max_lt.2 ⟨h1, h2⟩⟩, rfl⟩,
      fun ⟨h3, _, ⟨_, h4⟩, _⟩ => ⟨Nat.lt_of_le_of_lt (Nat.le_max_left _ _) h4,
        Nat.lt_of_le_of_lt (Nat.le_max_right _ _) h4, h3⟩⟩)
    (fun x _ => by simp only [drawsBefore_const, Nat.mul_one, Nat.add_zero, drawsBefore_rowStart, triPos])
    (by simp only [drawsBefore_const, Nat.mul_one, drawsBefore_rowStart])

end random

end
end MT.CodeRefine
