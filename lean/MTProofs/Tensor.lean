import MTProps.C18

namespace MTProofs
open MT

variable {α : Type} [MTExtra α]

theorem get_ofFn (R C T : Nat) (f : Nat → Nat → Nat → α) {i j a : Nat}
    (hi : i < R) (hj : j < C) (ha : a < T) : (Tens.ofFn R C T f).get i j a = f i j a :=
  MTProps.C18.get_ofFn R C T f hi hj ha

theorem ofFn_congr {R C T : Nat} {f g : Nat → Nat → Nat → α}
    (h : ∀ i j a, i < R → j < C → a < T → f i j a = g i j a) : Tens.ofFn R C T f = Tens.ofFn R C T g := by
  unfold Tens.ofFn
  congr 1
  apply congrArg
  funext p
  obtain ⟨h1, h2, h3, _⟩ := MTProps.C18.index_surjective p.isLt
  exact h _ _ _ h1 h2 h3

theorem get_ofFn_ind (P : α → Prop) {R C T : Nat} {f : Nat → Nat → Nat → α} (h0 : P MTExtra.zero)
    (h : ∀ i j a, i < R → j < C → a < T → P (f i j a)) (i j a : Nat) :
    P ((Tens.ofFn R C T f).get i j a) := by
  unfold Tens.get Tens.ofFn
  simp only
  rw [Array.getD_eq_getD_getElem?, Array.getElem?_ofFn]
  split
  · rename_i hlt
    obtain ⟨h1, h2, h3, _⟩ := MTProps.C18.index_surjective hlt
    exact h _ _ _ h1 h2 h3
  · exact h0

@[simp] theorem ofFn_R (R C T : Nat) (f : Nat → Nat → Nat → α) : (Tens.ofFn R C T f).R = R := rfl
@[simp] theorem ofFn_C (R C T : Nat) (f : Nat → Nat → Nat → α) : (Tens.ofFn R C T f).C = C := rfl
@[simp] theorem ofFn_T (R C T : Nat) (f : Nat → Nat → Nat → α) : (Tens.ofFn R C T f).T = T := rfl

/-- True of every tensor the model builds. -/
def _root_.MT.Tens.Sized (t : Tens α) : Prop := t.data.size = t.R * t.C * t.T

theorem ofFn_sized (R C T : Nat) (f : Nat → Nat → Nat → α) : (Tens.ofFn R C T f).Sized := by
  simp [MT.Tens.Sized, Tens.ofFn]

theorem ofFn_size (R C T : Nat) (f : Nat → Nat → Nat → α) : (Tens.ofFn R C T f).size = R * C * T :=
  ofFn_sized R C T f

theorem zeros_sized (R C T : Nat) : (Tens.zeros R C T : Tens α).Sized := by
  simp [MT.Tens.Sized, Tens.zeros]

theorem get_col_oob {t : Tens α} (hs : t.Sized) (hT : t.T = 1) {i k : Nat} (hk : t.C ≤ k) :
    t.get i k 0 = MTExtra.zero := by
  unfold Tens.get
  rw [Array.getD_eq_getD_getElem?, Array.getElem?_eq_none]
  · rfl
  · rw [hs, hT, MTProps.C18.index_eq_spec, MTProps.C18.spec_eq, Nat.mul_one, Nat.zero_mul, Nat.zero_add,
      Nat.mul_comm t.R]
    exact Nat.le_trans (Nat.mul_le_mul_right _ hk) (Nat.le_add_right _ _)

theorem zeros_get (R C T i j a : Nat) : (Tens.zeros R C T : Tens α).get i j a = MTExtra.zero := by
  unfold Tens.get Tens.zeros
  rw [Array.getD_eq_getD_getElem?, Array.getElem?_replicate]
  split <;> rfl

end MTProofs
