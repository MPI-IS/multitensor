/-
Abstract masked minorise–maximise (EM) step: for a function of the form
  F x = Σ_e a_e · log (Σ_p x_p c_{e,p}) − Σ_p x_p d_p
with non-negative data, the multiplicative update
  x'_p = x_p / d_p · Σ_e a_e c_{e,p} / S_e(x)   on a mask, x'_p = x_p elsewhere
does not decrease `F`.

The update is read as `x' = x · gain`, not through the quotient `x'/x`: a zero coordinate then needs no
case of its own (it stays zero and carries weight zero), a frozen one has gain 1. `minorise` is Jensen
for `log` on the responsibilities `x_p c_{e,p} / S_e`, for an arbitrary multiplicative change; `ascent`
puts in the gain and `g − 1 ≤ g · log g`.
-/
import Mathlib.Analysis.Convex.Jensen
import Mathlib.Analysis.SpecialFunctions.Log.Basic
import Mathlib.Analysis.Convex.SpecificFunctions.Basic
import Mathlib.Tactic.Linarith
import Mathlib.Tactic.Ring
import Mathlib.Algebra.BigOperators.Field

namespace MTProofs.MM
open Finset Real

variable {P E : Type} [DecidableEq P] (sP : Finset P) (sE : Finset E)

def S (c : E → P → ℝ) (x : P → ℝ) (e : E) : ℝ := ∑ p ∈ sP, x p * c e p

noncomputable def F (a : E → ℝ) (c : E → P → ℝ) (d : P → ℝ) (x : P → ℝ) : ℝ :=
  ∑ e ∈ sE, a e * Real.log (S sP c x e) - ∑ p ∈ sP, x p * d p

noncomputable def upd (a : E → ℝ) (c : E → P → ℝ) (d : P → ℝ) (m : P → Prop) [DecidablePred m]
    (x : P → ℝ) (p : P) : ℝ :=
  if m p then x p / d p * ∑ e ∈ sE, a e * c e p / S sP c x e else x p

/-- Jensen for `log` with weights that may vanish: the points need to be positive only where the weight is not 0. -/
lemma sum_mul_log_le {ι : Type} (s : Finset ι) (ρ t : ι → ℝ) (hρ : ∀ i ∈ s, 0 ≤ ρ i)
    (h1 : ∑ i ∈ s, ρ i = 1) (ht : ∀ i ∈ s, ρ i ≠ 0 → 0 < t i) :
    ∑ i ∈ s, ρ i * log (t i) ≤ log (∑ i ∈ s, ρ i * t i) := by
  classical
  have e : ∀ f : ι → ℝ, ∑ i ∈ s with ρ i ≠ 0, ρ i * f i = ∑ i ∈ s, ρ i * f i := fun f =>
    sum_filter_of_ne fun i _ h => left_ne_zero_of_mul h
  have := strictConcaveOn_log_Ioi.concaveOn.le_map_sum (t := s.filter (ρ · ≠ 0)) (w := ρ) (p := t)
    (fun i hi => hρ i (mem_filter.1 hi).1) (by rw [sum_filter_ne_zero, h1])
    (fun i hi => ht i (mem_filter.1 hi).1 (mem_filter.1 hi).2)
  simpa only [smul_eq_mul, e] using this

lemma sub_one_le_mul_log {g : ℝ} (hg : 0 ≤ g) : g - 1 ≤ g * log g := by
  rcases hg.eq_or_lt with rfl | hg
  · rw [zero_mul, zero_sub]; exact neg_nonpos.2 zero_le_one
  · have := mul_le_mul_of_nonneg_left (one_sub_inv_le_log_of_pos hg) hg.le
    rwa [mul_sub, mul_one, mul_inv_cancel₀ hg.ne'] at this

noncomputable def gain (a : E → ℝ) (c : E → P → ℝ) (d : P → ℝ) (m : P → Prop) [DecidablePred m]
    (x : P → ℝ) (p : P) : ℝ :=
  if m p then (∑ e ∈ sE, a e * c e p / S sP c x e) / d p else 1

section
variable (a : E → ℝ) (c : E → P → ℝ) (d : P → ℝ) (m : P → Prop) [DecidablePred m] (x : P → ℝ)
variable (ha : ∀ e ∈ sE, 0 ≤ a e) (hc : ∀ e ∈ sE, ∀ p ∈ sP, 0 ≤ c e p) (hx : ∀ p ∈ sP, 0 ≤ x p)
variable (hd : ∀ p ∈ sP, m p → 0 < d p) (hS : ∀ e ∈ sE, 0 < a e → 0 < S sP c x e)

lemma upd_eq_mul : upd sP sE a c d m x = fun p => x p * gain sP sE a c d m x p := by
  funext p; unfold upd gain; split_ifs <;> ring

lemma F_sub (x' : P → ℝ) : F sP sE a c d x' - F sP sE a c d x =
    ∑ e ∈ sE, a e * (log (S sP c x' e) - log (S sP c x e)) - ∑ p ∈ sP, (x' p - x p) * d p := by
  simp only [F, mul_sub, sub_mul, sum_sub_distrib]; ring

lemma F_congr (x' : P → ℝ) (h : ∀ p ∈ sP, x' p = x p) : F sP sE a c d x' = F sP sE a c d x :=
  congrArg₂ (· - ·) (sum_congr rfl fun e _ => by rw [S, S, sum_congr rfl fun p hp => by rw [h p hp]])
    (sum_congr rfl fun p hp => by rw [h p hp])

include hc hx in
lemma S_nonneg (e : E) (he : e ∈ sE) : 0 ≤ S sP c x e :=
  sum_nonneg fun p hp => mul_nonneg (hx p hp) (hc e he p hp)

include ha hc hx in
lemma inner_nonneg (p : P) (hp : p ∈ sP) : 0 ≤ ∑ e ∈ sE, a e * c e p / S sP c x e :=
  sum_nonneg fun e he => div_nonneg (mul_nonneg (ha e he) (hc e he p hp)) (S_nonneg sP sE c x hc hx e he)

include hc hx in
lemma edge_minorise (g : P → ℝ) (hg0 : ∀ p ∈ sP, 0 ≤ g p) (e : E) (he : e ∈ sE) (hs : 0 < S sP c x e)
    (hg : ∀ p ∈ sP, x p * c e p ≠ 0 → 0 < g p) :
    ∑ p ∈ sP, x p * c e p / S sP c x e * log (g p)
      ≤ log (S sP c (fun p => x p * g p) e) - log (S sP c x e) := by
  have h0 : ∀ p ∈ sP, 0 ≤ x p * c e p := fun p hp => mul_nonneg (hx p hp) (hc e he p hp)
  have hJ := sum_mul_log_le sP (fun p => x p * c e p / S sP c x e) g
    (fun p hp => div_nonneg (h0 p hp) hs.le) (by rw [← sum_div]; exact div_self hs.ne')
    (fun p hp h => hg p hp (div_ne_zero_iff.1 h).1)
  have hS' : ∑ p ∈ sP, x p * c e p / S sP c x e * g p = S sP c (fun p => x p * g p) e / S sP c x e := by
    simp only [S]; rw [sum_div]; exact sum_congr rfl fun p _ => by ring
  have hpos : 0 < S sP c (fun p => x p * g p) e := by
    obtain ⟨p, hp, h⟩ := (sum_pos_iff_of_nonneg h0).1 hs
    refine sum_pos' (fun q hq => mul_nonneg (mul_nonneg (hx q hq) (hg0 q hq)) (hc e he q hq)) ⟨p, hp, ?_⟩
    rw [mul_right_comm]; exact mul_pos h (hg p hp h.ne')
  rwa [hS', log_div hpos.ne' hs.ne'] at hJ

include ha hc hx hd in
lemma gain_nonneg (p : P) (hp : p ∈ sP) : 0 ≤ gain sP sE a c d m x p := by
  unfold gain; split_ifs with h
  · exact div_nonneg (inner_nonneg sP sE a c x ha hc hx p hp) (hd p hp h).le
  · exact zero_le_one

include ha hc hx hd hS in
lemma gain_pos (e : E) (he : e ∈ sE) (hae : 0 < a e) (p : P) (hp : p ∈ sP) (h : x p * c e p ≠ 0) :
    0 < gain sP sE a c d m x p := by
  unfold gain; split_ifs with hm
  · refine div_pos (sum_pos' (fun e' he' => div_nonneg (mul_nonneg (ha e' he') (hc e' he' p hp))
      (S_nonneg sP sE c x hc hx e' he')) ⟨e, he, ?_⟩) (hd p hp hm)
    exact div_pos (mul_pos hae ((hc e he p hp).lt_of_ne' (right_ne_zero_of_mul h))) (hS e he hae)
  · exact zero_lt_one

include ha hc hx hS in
/-- The `log` part of `F` gains at least `Σ_p x_p G_p log g_p`, `G_p = Σ_e a_e c_{e,p} / S_e(x)` the gradient of that
part at `x`: the bound is separable in the coordinates and tight at `g = 1`. `g_p > 0` is needed only where `x_p`
feeds an observed edge. -/
theorem minorise (g : P → ℝ) (hg0 : ∀ p ∈ sP, 0 ≤ g p)
    (hg : ∀ e ∈ sE, 0 < a e → ∀ p ∈ sP, x p * c e p ≠ 0 → 0 < g p) :
    ∑ p ∈ sP, x p * (∑ e ∈ sE, a e * c e p / S sP c x e) * log (g p) ≤
      ∑ e ∈ sE, a e * (log (S sP c (fun p => x p * g p) e) - log (S sP c x e)) := by
  calc _ = ∑ e ∈ sE, a e * ∑ p ∈ sP, x p * c e p / S sP c x e * log (g p) := by
        simp only [mul_sum, sum_mul]; rw [sum_comm]
        exact sum_congr rfl fun e _ => sum_congr rfl fun p _ => by ring
    _ ≤ _ := by
        refine sum_le_sum fun e he => ?_
        rcases (ha e he).eq_or_lt with h | h
        · simp [← h]
        · exact mul_le_mul_of_nonneg_left
            (edge_minorise sP sE c x hc hx g hg0 e he (hS e he h) (hg e he h)) h.le

include ha hc hx hd hS in
theorem ascent : F sP sE a c d x ≤ F sP sE a c d (upd sP sE a c d m x) := by
  rw [← sub_nonneg, F_sub, upd_eq_mul, sub_nonneg]
  refine le_trans (sum_le_sum fun p hp => ?_) (minorise sP sE a c x ha hc hx hS _
    (gain_nonneg sP sE a c d m x ha hc hx hd) (gain_pos sP sE a c d m x ha hc hx hd hS))
  -- the linear part loses `x_p d_p (g_p − 1)`, the bound gives `x_p d_p · g_p log g_p`
  by_cases hm : m p
  · have hG : ∑ e ∈ sE, a e * c e p / S sP c x e = gain sP sE a c d m x p * d p := by
      simp only [gain, if_pos hm, div_mul_cancel₀ _ (hd p hp hm).ne']
    have := mul_le_mul_of_nonneg_left
      (sub_one_le_mul_log (gain_nonneg sP sE a c d m x ha hc hx hd p hp))
      (mul_nonneg (hx p hp) (hd p hp hm).le)
    rw [hG]; linarith
  · simp [gain, hm]

end
end MTProofs.MM
