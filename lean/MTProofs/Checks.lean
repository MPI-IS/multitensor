/-
Chains of checks `if c₁ then .error e₁ else if c₂ then .error e₂ else … .ok a`, the shape of the library's
validation (main.hpp) and of the affinity reader's first pass (app_utils.cpp) in the model.
-/
namespace MTProofs

theorem ite_error_eq_ok_iff {ε β : Type} {c : Prop} [Decidable c] {e : ε} {x : Except ε β} {a : β} :
    (if c then .error e else x) = .ok a ↔ ¬ c ∧ x = .ok a := by
  by_cases h : c
  · rw [if_pos h]; exact ⟨nofun, fun h' => absurd h h'.1⟩
  · rw [if_neg h]; exact ⟨fun h' => ⟨h, h'⟩, And.right⟩

theorem rejected_of_not_ok {ε β : Type} {x : Except ε β} (h : ∀ a, x ≠ .ok a) : ∃ e, x = .error e := by
  cases x with
  | error e => exact ⟨e, rfl⟩
  | ok a => exact absurd rfl (h a)

end MTProofs
