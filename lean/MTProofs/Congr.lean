/-
The paper-form expressions read their arguments only at the entries that exist (`WAgree`, `MAgree`).
-/
import MTProofs.MassBalance
import MTProofs.Likelihood

namespace MTProofs
open MT Finset

theorem csum_congr' {assort : Bool} {K k : Nat} {f g : Nat → ℝ} (hk : k < K)
    (h : ∀ q, q < K → (assort = true → k = q) → f q = g q) : csum assort K k f = csum assort K k g := by
  unfold csum
  cases assort
  · simp only [Bool.false_eq_true, ↓reduceIte]
    exact sum_congr rfl fun q hq => h q (mem_range.mp hq) (fun hc => absurd hc (by simp))
  · simp only [↓reduceIte]
    exact h k hk (fun _ => rfl)

theorem csum_congr (assort : Bool) (K k : Nat) (f g : Nat → ℝ) (hk : k < K) (h : ∀ q, q < K → f q = g q) :
    csum assort K k f = csum assort K k g :=
  csum_congr' hk fun q hq _ => h q hq

theorem sumL_congr_mem {ι : Type} (l : List ι) (f g : ι → ℝ) (h : ∀ x ∈ l, f x = g x) : sumL l f = sumL l g := by
  simp only [sumL_eq_sum]
  congr 1
  exact List.map_congr_left h

section
variable (assort : Bool) (K L N : Nat)

def WAgree (wf wf' : Nat → Nat → Nat → ℝ) : Prop :=
  ∀ k q a, k < K → q < K → a < L → (assort = true → k = q) → wf k q a = wf' k q a

def MAgree (X X' : Nat → Nat → ℝ) : Prop := ∀ i k, i < N → k < K → X i k = X' i k

variable {assort K L N}

theorem rate_congr {wf wf' : Nat → Nat → Nat → ℝ} {Y Y' X X' : Nat → Nat → ℝ}
    (hw : WAgree assort K L wf wf') (hY : MAgree K N Y Y') (hX : MAgree K N X X')
    {i j a : Nat} (hi : i < N) (hj : j < N) (ha : a < L) :
    rate assort K wf Y X i j a = rate assort K wf' Y' X' i j a := by
  unfold rate
  apply gsum_congr'
  intro m l hm hl hdiag
  rw [hX i m hi hm, hY j l hj hl, hw m l a hm hl ha hdiag]

theorem specVEntry_congr {num den : List Nat} {nbr : Nat → Nat → List Nat}
    {wf wf' : Nat → Nat → Nat → ℝ} {Y Y' X X' : Nat → Nat → ℝ}
    (hden : ∀ j ∈ den, j < N)
    (hw : WAgree assort K L wf wf') (hY : MAgree K N Y Y') (hX : MAgree K N X X')
    {i k : Nat} (hi : i < N) (hk : k < K) :
    specVEntry assort K L N num den nbr wf Y X i k = specVEntry assort K L N num den nbr wf' Y' X' i k := by
  have hZ : specZ assort K L den wf Y k = specZ assort K L den wf' Y' k :=
    csum_congr' hk fun l hl hdiag => by
      rw [sum_congr rfl fun a ha => hw k l a hk hl (mem_range.mp ha) hdiag,
        sumL_congr_mem den _ _ fun j hj => hY j l (hden j hj) hl]
  have hval : specVal assort K L N nbr wf Y X i k = specVal assort K L N nbr wf' Y' X' i k :=
    sum_congr rfl fun a ha => sum_congr rfl fun j hj => by
      rw [rate_congr hw hY hX hi (mem_range.mp hj) (mem_range.mp ha),
        csum_congr' hk fun q hq hdiag => by
          rw [hY j q (mem_range.mp hj) hq, hw k q a hk hq (mem_range.mp ha) hdiag]]
  unfold specVEntry
  rw [hZ, hval, hX i k hi hk]

theorem specWEntry_congr {uList vList : List Nat} {out : Nat → Nat → List Nat}
    {w w' : Nat → Nat → Nat → ℝ} {u u' v v' : Nat → Nat → ℝ}
    (hul : ∀ i ∈ uList, i < N) (hvl : ∀ j ∈ vList, j < N)
    (hw : WAgree assort K L w w') (hu : MAgree K N u u') (hv : MAgree K N v v')
    {k q a : Nat} (hk : k < K) (hq : q < K) (ha : a < L) (hdiag : assort = true → k = q) :
    specWEntry assort K N uList vList out u v w k q a = specWEntry assort K N uList vList out u' v' w' k q a := by
  have hacc : specWAcc assort K N out u v w k q a = specWAcc assort K N out u' v' w' k q a :=
    sum_congr rfl fun i hi => by
      rw [hu i k (mem_range.mp hi) hk]
      refine congrArg _ (sum_congr rfl fun j hj => ?_)
      rw [rate_congr hw hv hu (mem_range.mp hi) (mem_range.mp hj) ha, hv j q (mem_range.mp hj) hq]
  unfold specWEntry specWZ
  rw [hacc, hw k q a hk hq ha hdiag, sumL_congr_mem uList _ _ fun i hi => hu i k (hul i hi) hk,
    sumL_congr_mem vList _ _ fun j hj => hv j q (hvl j hj) hq]

theorem poissonLL_congr {out : Nat → Nat → List Nat}
    {wf wf' : Nat → Nat → Nat → ℝ} {u u' v v' : Nat → Nat → ℝ}
    (hw : WAgree assort K L wf wf') (hu : MAgree K N u u') (hv : MAgree K N v v') :
    poissonLL assort K L N out u v wf = poissonLL assort K L N out u' v' wf' := by
  unfold poissonLL cellLL
  apply sum_congr rfl; intro a ha
  apply sum_congr rfl; intro i hi
  apply sum_congr rfl; intro j hj
  rw [rate_congr hw hv hu (mem_range.mp hi) (mem_range.mp hj) (mem_range.mp ha)]

end

end MTProofs
