/-
Outside the two admissible exceptions (an entry snapped to zero; an observed edge with rate ≤ ε)
`specVEntry`/`specWEntry` coincide with the masked MM updates on the entries that exist, which is all
the objective reads (`objV_congr`).
-/
import MTProofs.Ascent
import MTProofs.Congr
import Mathlib.Tactic.Ring

namespace MTProofs
open MT Finset

theorem rate_nonneg {assort : Bool} {K : Nat} {wf : Nat → Nat → Nat → ℝ} {Y X : Nat → Nat → ℝ}
    (hX : ∀ i k, 0 ≤ X i k) (hY : ∀ j q, 0 ≤ Y j q) (hw : ∀ k q a, 0 ≤ wf k q a) (i j a : Nat) :
    0 ≤ rate assort K wf Y X i j a :=
  gsum_nonneg fun _ _ _ _ => mul_nonneg (mul_nonneg (hX _ _) (hY _ _)) (hw _ _ _)

/-- `objW A u v w` is `objV A w v u` and `freeLL out u v w` is `objV` of the multiplicities of `out`, with the
same exchange of roles, so this is the congruence of all three. -/
theorem objV_congr (assort : Bool) (K L N : Nat) (B : Nat → Nat → Nat → ℝ)
    {wf wf' : Nat → Nat → Nat → ℝ} {Y Y' X X' : Nat → Nat → ℝ}
    (hw : WAgree assort K L wf wf') (hY : MAgree K N Y Y') (hX : MAgree K N X X') :
    objV assort K L N B wf Y X = objV assort K L N B wf' Y' X' :=
  sum_congr rfl fun a ha => sum_congr rfl fun i hi => sum_congr rfl fun j hj => by
    rw [rate_congr hw hY hX (mem_range.mp hi) (mem_range.mp hj) (mem_range.mp ha)]

section vertices
variable (assort : Bool) (K L N : Nat) (num den : List Nat) (nbr : Nat → Nat → List Nat)
  (wf : Nat → Nat → Nat → ℝ) (Y X : Nat → Nat → ℝ)

def maskV (i k : Nat) : Prop := ε < specZ assort K L den wf Y k ∧ i ∈ num ∧ ε < X i k

noncomputable instance (i k : Nat) : Decidable (maskV assort K L num den wf Y X i k) := by
  unfold maskV; exact inferInstance

noncomputable def rawV (i k : Nat) : ℝ :=
  X i k / specZ assort K L den wf Y k * specVal assort K L N nbr wf Y X i k

noncomputable def multOf (nbr : Nat → Nat → List Nat) (a i j : Nat) : ℝ := ((nbr a i).count j : ℝ)

variable {assort K L N num den nbr wf Y X}

theorem specVal_nonneg (hX : ∀ i k, 0 ≤ X i k) (hY : ∀ j q, 0 ≤ Y j q) (hw : ∀ k q a, 0 ≤ wf k q a) (i k : Nat) :
    0 ≤ specVal assort K L N nbr wf Y X i k := by
  unfold specVal
  refine sum_nonneg fun a _ => sum_nonneg fun j _ => mul_nonneg (Nat.cast_nonneg _) ?_
  split
  · exact div_nonneg (csum_nonneg fun q => mul_nonneg (hY _ _) (hw _ _ _))
      (rate_nonneg hX hY hw i j a)
  · exact le_rfl

theorem specVEntry_nonneg (hX : ∀ i k, 0 ≤ X i k) (hY : ∀ j q, 0 ≤ Y j q) (hw : ∀ k q a, 0 ≤ wf k q a) (i k : Nat) :
    0 ≤ specVEntry assort K L N num den nbr wf Y X i k :=
  guarded_nonneg (hX i k) fun h => mul_nonneg (div_nonneg (hX i k) (eps_pos.trans h.1).le)
    (specVal_nonneg hX hY hw i k)

theorem specVEntry_eq_mmV (hR : RatesAbove assort K L N nbr X Y wf)
    (hNoSnap : ∀ i k, i < N → k < K → maskV assort K L num den wf Y X i k →
      ¬ |rawV assort K L N den nbr wf Y X i k| < ε)
    {i k : Nat} (hi : i < N) (hk : k < K) :
    specVEntry assort K L N num den nbr wf Y X i k =
      mmV assort K L N den (multOf nbr) wf Y X (maskV assort K L num den wf Y X) i k :=
  guarded_eq (hNoSnap i k hi hk) fun _ => congrArg (_ * ·) <|
    sum_congr rfl fun a ha => sum_congr rfl fun j hj =>
      count_mul_guard (hR a i j (mem_range.mp ha) hi (mem_range.mp hj))

variable (assort K L N num den nbr wf Y X) in
/-- outside the two exceptions, the published update does not decrease the (unguarded) log-likelihood -/
theorem specV_ascent
    (hD : ∀ l, sumL den (fun j => Y j l) = ∑ j ∈ range N, Y j l)
    (hX : ∀ i k, 0 ≤ X i k) (hY : ∀ j q, 0 ≤ Y j q) (hw : ∀ k q a, 0 ≤ wf k q a)
    (hR : RatesAbove assort K L N nbr X Y wf)
    (hNoSnap : ∀ i k, i < N → k < K → maskV assort K L num den wf Y X i k →
      ¬ |rawV assort K L N den nbr wf Y X i k| < ε) :
    objV assort K L N (multOf nbr) wf Y X ≤
      objV assort K L N (multOf nbr) wf Y (specVEntry assort K L N num den nbr wf Y X) :=
  (mmV_ascent assort K L N den (multOf nbr) wf Y X (maskV assort K L num den wf Y X) hD
    (fun _ _ _ => Nat.cast_nonneg _) hX hY hw (fun _ _ hm => lt_trans eps_pos hm.1)
    (fun a i j ha hi hj hB => lt_trans eps_pos (hR a i j ha hi hj (Nat.cast_pos.mp hB)))).trans_eq
  (objV_congr assort K L N (multOf nbr) (fun _ _ _ _ _ _ _ => rfl) (fun _ _ _ _ => rfl)
    fun _ _ hi hk => (specVEntry_eq_mmV hR hNoSnap hi hk).symm)

end vertices

section affinity
variable (assort : Bool) (K L N : Nat) (uList vList : List Nat) (out : Nat → Nat → List Nat)
  (u v : Nat → Nat → ℝ) (w : Nat → Nat → Nat → ℝ)

def maskW (k q a : Nat) : Prop := ε < specWZ uList vList u v k q ∧ ε < w k q a

noncomputable instance (k q a : Nat) : Decidable (maskW uList vList u v w k q a) := by
  unfold maskW; exact inferInstance

variable {assort K L N uList vList out u v w}

theorem specWAcc_nonneg (hu : ∀ i k, 0 ≤ u i k) (hv : ∀ j q, 0 ≤ v j q) (hw : ∀ k q a, 0 ≤ w k q a) (k q a : Nat) :
    0 ≤ specWAcc assort K N out u v w k q a := by
  unfold specWAcc
  refine sum_nonneg fun i _ => mul_nonneg (hu _ _) (sum_nonneg fun j _ => mul_nonneg (Nat.cast_nonneg _) ?_)
  split
  · exact div_nonneg (hv _ _) (rate_nonneg hu hv hw i j a)
  · exact le_rfl

theorem specWEntry_nonneg (hu : ∀ i k, 0 ≤ u i k) (hv : ∀ j q, 0 ≤ v j q) (hw : ∀ k q a, 0 ≤ w k q a) (k q a : Nat) :
    0 ≤ specWEntry assort K N uList vList out u v w k q a :=
  guarded_nonneg (hw k q a) fun h => mul_nonneg (div_nonneg (hw k q a) (eps_pos.trans h.1).le)
    (specWAcc_nonneg hu hv hw k q a)

theorem specWEntry_eq_mmW (hR : RatesAbove assort K L N out u v w)
    (hNoSnap : ∀ k q a, k < K → q < K → a < L → maskW uList vList u v w k q a →
      ¬ |rawW assort K N uList vList out u v w a k q| < ε)
    {k q a : Nat} (hk : k < K) (hq : q < K) (ha : a < L) :
    specWEntry assort K N uList vList out u v w k q a =
      mmW assort K N uList vList (multOf out) u v w (maskW uList vList u v w) k q a :=
  guarded_eq (hNoSnap k q a hk hq ha) fun _ => congrArg (_ * ·) (specWAcc_of_rates (hR a · · ha) k q)

variable (assort K L N uList vList out u v w) in
theorem specW_ascent
    (hU : ∀ k, sumL uList (fun i => u i k) = ∑ i ∈ range N, u i k)
    (hV : ∀ q, sumL vList (fun j => v j q) = ∑ j ∈ range N, v j q)
    (hu : ∀ i k, 0 ≤ u i k) (hv : ∀ j q, 0 ≤ v j q) (hw : ∀ k q a, 0 ≤ w k q a)
    (hR : RatesAbove assort K L N out u v w)
    (hNoSnap : ∀ k q a, k < K → q < K → a < L → maskW uList vList u v w k q a →
      ¬ |rawW assort K N uList vList out u v w a k q| < ε) :
    objW assort K L N (multOf out) u v w ≤
      objW assort K L N (multOf out) u v (fun k q a => specWEntry assort K N uList vList out u v w k q a) :=
  (mmW_ascent assort K L N uList vList (multOf out) u v w (maskW uList vList u v w) hU hV
    (fun _ _ _ => Nat.cast_nonneg _) hu hv hw (fun _ _ _ hm => lt_trans eps_pos hm.1)
    (fun a i j ha hi hj hB => lt_trans eps_pos (hR a i j ha hi hj (Nat.cast_pos.mp hB)))).trans_eq
  (objV_congr assort K L N (multOf out)
    (fun _ _ _ hk hq ha _ => (specWEntry_eq_mmW hR hNoSnap hk hq ha).symm)
    (fun _ _ _ _ => rfl) fun _ _ _ _ => rfl)

end affinity

end MTProofs
