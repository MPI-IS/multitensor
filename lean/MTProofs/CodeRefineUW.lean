/-
`update_affinity`: solver.hpp has one loop nest for the general tensor `w(k,q,a)` and one for the assortative
`w(k,a)`, the generated code two fields `w3`, `w2`: hence two chains of lemmas, `uw_gen_*` and `uw_assort_*`.
-/
import MT.Solver
import MT.Generated.SolverCode
import MTProofs.Folds

set_option linter.unusedSectionVars false

namespace MT.CodeRefine
open MT MT.Imp MT.Gen

section
variable {α : Type} [Add α] [Sub α] [Mul α] [Div α] [LT α] [DecidableLT α] [MTExtra α]

section uw
variable (assort : Bool) (K L N : Nat) (uList vList : List Nat) (out : Nat → Nat → List Nat)
  (u v : Nat → Nat → α) (wOld : Nat → Nat → Nat → α)

local notation "uw[" f "]" => f assort K L N uList vList out u v (diag2 wOld) wOld
local notation "uwTop" => uw[updateAffinityCode]

theorem wZij_unfold (i j a : Nat) :
    wZij assort K u v wOld i j a
      = (List.range K).foldl (fun z m =>
          accL (cols assort K m) (fun l => u i m * v j l * wOld m l a) z) MTExtra.zero :=
  foldl_gpairs assort K _ _

theorem wRho_unfold (i q a : Nat) :
    wRho assort K out u v wOld i q a
      = (out a i).foldl (fun r j => if MTExtra.eps < wZij assort K u v wOld i j a
          then r + v j q / wZij assort K u v wOld i j a else r) MTExtra.zero := by
  simp only [wRho, sumL, List.foldl_filter, decide_eq_true_eq]

theorem wAcc_unfold (k q a : Nat) :
    accL (List.range N) (fun i => u i k * wRho assort K out u v wOld i q a) MTExtra.zero
      = wAcc assort K N out u v wOld k q a := rfl

theorem wZ_unfold (k q : Nat) :
    wZ uList vList u v k q
      = accL uList (fun i => u i k) MTExtra.zero * accL vList (fun i => v i q) MTExtra.zero := rfl

/-- Below the layer loop both loop nests have this shape (`hE`, `hV` hold by `rfl`) and differ in the loop `Zl` for `Zij_a`. -/
theorem uw_acc_of (Zl E : Nat → Nat → UWLoc α → UWLoc α) (V : Nat → UWLoc α → UWLoc α) (k q a : Nat)
    (hZ : ∀ i j s, Zl i j s = { s with Zij_a := (List.range K).foldl (fun z m =>
            accL (cols assort K m) (fun l => u i m * v j l * wOld m l a) z) s.Zij_a })
    (hE : ∀ i j s, E i j s =
      (let s : UWLoc α := { s with Zij_a := MTExtra.zero }
       let s : UWLoc α := Zl i j s
       if MTExtra.eps < s.Zij_a then { s with rho_w := s.rho_w + v j q / s.Zij_a } else s))
    (hV : ∀ i s, V i s =
      (let s : UWLoc α := { s with rho_w := MTExtra.zero }
       let s : UWLoc α := forList (out a i) (E i) s
       { s with w_kqa := s.w_kqa + u i k * s.rho_w }))
    (s : UWLoc α) :
    let s' := forRange N V { s with w_kqa := MTExtra.zero }
    (s'.Z_kq = s.Z_kq ∧ s'.w2 = s.w2 ∧ s'.w3 = s.w3) ∧ s'.w_kqa = wAcc assort K N out u v wOld k q a := by
  have hE' (i j : Nat) (s : UWLoc α) : E i j s = { s with
      Zij_a := wZij assort K u v wOld i j a,
      rho_w := if MTExtra.eps < wZij assort K u v wOld i j a
               then s.rho_w + v j q / wZij assort K u v wOld i j a else s.rho_w } := by
    rw [hE]
    simp only [hZ, ← wZij_unfold]
    split <;> rfl
  refine foldl_proj_inv (I := fun s' => s'.Z_kq = s.Z_kq ∧ s'.w2 = s.w2 ∧ s'.w3 = s.w3)
    (g := fun w i => w + u i k * wRho assort K out u v wOld i q a)
    UWLoc.w_kqa { s with w_kqa := MTExtra.zero } ⟨rfl, rfl, rfl⟩ (fun t i ht => ?_) (List.range N)
  obtain ⟨⟨h1, h2, h3, h4⟩, h5⟩ := foldl_proj_inv
    (I := fun s' => s'.Z_kq = s.Z_kq ∧ s'.w2 = s.w2 ∧ s'.w3 = s.w3 ∧ s'.w_kqa = t.w_kqa)
    (g := fun r j => if MTExtra.eps < wZij assort K u v wOld i j a
                     then r + v j q / wZij assort K u v wOld i j a else r)
    (f := fun s j => E i j s)
    UWLoc.rho_w { t with rho_w := MTExtra.zero } ⟨ht.1, ht.2.1, ht.2.2, rfl⟩
    (fun s' j hs' => by rw [hE']; exact ⟨hs', rfl⟩) (out a i)
  dsimp only at h5
  rw [← wRho_unfold] at h5
  rw [hV]
  simp only [forList, h1, h2, h3, h4, h5, and_self]

theorem uw_gen_Zij (hA : assort = false) (k q a i j : Nat) (s : UWLoc α) :
    forRange K (uw[updateAffinityCode_1_4_3_1_1_1] k q a i j) s
      = { s with Zij_a := (List.range K).foldl (fun z m =>
            accL (cols assort K m) (fun l => u i m * v j l * wOld m l a) z) s.Zij_a } := by
  subst hA
  exact List.foldl_hom (fun t => ({ s with Zij_a := t } : UWLoc α))
    (fun t m => List.foldl_hom (fun t => ({ s with Zij_a := t } : UWLoc α)) (fun _ _ => rfl))

theorem uw_gen_layer_body (hA : assort = false) (k q a : Nat) (s : UWLoc α) (z : α) (hz : s.Z_kq = z) :
    (uw[updateAffinityCode_1_4_3] k q a s).Z_kq = z ∧ ∀ x,
    un3 (uw[updateAffinityCode_1_4_3] k q a s).w3 x =
      if x.2.2 = a ∧ ((x.1 = k ∧ x.2.1 = q) ∧ MTExtra.eps < wOld k q a) then
        snap (wOld k q a / z * wAcc assort K N out u v wOld k q a)
      else un3 s.w3 x := by
  subst hz
  unfold updateAffinityCode_1_4_3
  by_cases hg : MTExtra.eps < wOld k q a
  · obtain ⟨⟨h1, -, h2⟩, h3⟩ :=
      uw_acc_of assort K N out u v wOld (fun i j => forRange K (uw[updateAffinityCode_1_4_3_1_1_1] k q a i j))
        (uw[updateAffinityCode_1_4_3_1_1] k q a) (uw[updateAffinityCode_1_4_3_1] k q a) k q a
        (uw_gen_Zij assort K L N uList vList out u v wOld hA k q a) (fun _ _ _ => rfl) (fun _ _ => rfl) s
    -- as in `uv_entry_body`: the entry is written and then, if small, overwritten by zero, i.e. `snap` is written
    simp only [hg, if_true, forRange, h1, h2, h3, setAt3_self, snap, apply_ite UWLoc.Z_kq, apply_ite UWLoc.w3,
      setAt3_setAt3, ← apply_ite (setAt3 s.w3 k q a), ite_self, un3_setAt3, and_true, implies_true]
  · simp [hg]

theorem uw_gen_layers (hA : assort = false) (k q : Nat) (s : UWLoc α) (x : Nat × Nat × Nat) :
    un3 (forRange L (uw[updateAffinityCode_1_4_3] k q) s).w3 x
      = if x.2.2 < L ∧ ((x.1 = k ∧ x.2.1 = q) ∧ MTExtra.eps < wOld k q x.2.2) then
          snap (wOld k q x.2.2 / s.Z_kq * wAcc assort K N out u v wOld k q x.2.2)
        else un3 s.w3 x :=
  forRange_select_inv (I := fun s' => s'.Z_kq = s.Z_kq) (fun s' => un3 s'.w3) (uw[updateAffinityCode_1_4_3] k q)
    (fun a s' hs' => uw_gen_layer_body assort K L N uList vList out u v wOld hA k q a s' s.Z_kq hs') L s rfl x

theorem uw_gen_Dv (k q : Nat) (s : UWLoc α) :
    forList vList (uw[updateAffinityCode_1_4_1] k q) s = { s with Dv := accL vList (fun i => v i q) s.Dv } :=
  List.foldl_hom (fun t => ({ s with Dv := t } : UWLoc α)) (fun _ _ => rfl)

theorem uw_gen_Du (k q : Nat) (s : UWLoc α) :
    forList uList (uw[updateAffinityCode_1_4_2] k q) s = { s with Du := accL uList (fun i => u i k) s.Du } :=
  List.foldl_hom (fun t => ({ s with Du := t } : UWLoc α)) (fun _ _ => rfl)

theorem uw_gen_q_body (hA : assort = false) (k q : Nat) (s : UWLoc α) (x : Nat × Nat × Nat) :
    un3 (uw[updateAffinityCode_1_4] k q s).w3 x
      = if x.2.1 = q ∧ (x.2.2 < L ∧ (x.1 = k ∧
            (MTExtra.eps < wZ uList vList u v k q ∧ MTExtra.eps < wOld k q x.2.2))) then
          snap (wOld k q x.2.2 / wZ uList vList u v k q * wAcc assort K N out u v wOld k q x.2.2)
        else un3 s.w3 x := by
  unfold updateAffinityCode_1_4
  simp only [uw_gen_Dv, uw_gen_Du]
  rw [wZ_unfold]
  split
  · rename_i hz
    rw [uw_gen_layers assort K L N uList vList out u v wOld hA]
    by_cases h1 : x.2.1 = q <;> by_cases h2 : x.1 = k <;> simp [hz, h1, h2]
  · rename_i hz
    simp [hz]

theorem uw_gen_k_body (hA : assort = false) (k : Nat) (s : UWLoc α) (x : Nat × Nat × Nat) :
    un3 (uw[updateAffinityCode_1] k s).w3 x
      = if x.1 = k ∧ (x.2.1 < K ∧ (x.2.2 < L ∧
            (MTExtra.eps < wZ uList vList u v k x.2.1 ∧ MTExtra.eps < wOld k x.2.1 x.2.2))) then
          snap (wOld k x.2.1 x.2.2 / wZ uList vList u v k x.2.1 * wAcc assort K N out u v wOld k x.2.1 x.2.2)
        else un3 s.w3 x := by
  unfold updateAffinityCode_1
  rw [if_neg (by simp [hA]), forRange_select (fun s : UWLoc α => un3 s.w3) (uw[updateAffinityCode_1_4] k)
    (uw_gen_q_body assort K L N uList vList out u v wOld hA k)]
  by_cases h1 : x.1 = k <;> simp [h1]

theorem updateAffinityCode_refines_general (hA : assort = false) (s0 : UWLoc α)
    (h0 : ∀ k q a, s0.w3 k q a = wOld k q a) (k q a : Nat) :
    (uwTop s0).w3 k q a =
      if k < K ∧ q < K ∧ a < L then updWEntry assort K N uList vList out u v wOld k q a else wOld k q a := by
  have h := forRange_select (fun s : UWLoc α => un3 s.w3) (uw[updateAffinityCode_1])
    (uw_gen_k_body assort K L N uList vList out u v wOld hA) K s0 (k, q, a)
  simp only [un3, h0] at h
  unfold updateAffinityCode updWEntry
  rw [h]
  by_cases hR : k < K ∧ q < K ∧ a < L
  · obtain ⟨hk, hq, ha⟩ := hR
    simp only [hk, hq, ha, true_and, and_self, if_true]
  · rw [if_neg hR, if_neg (fun h => hR ⟨h.1, h.2.1, h.2.2.1⟩)]

theorem uw_assort_Zij (hA : assort = true) (k a i j : Nat) (s : UWLoc α) :
    forRange K (uw[updateAffinityCode_1_3_1_1_1] k a i j) s
      = { s with Zij_a := (List.range K).foldl (fun z m =>
            accL (cols assort K m) (fun l => u i m * v j l * wOld m l a) z) s.Zij_a } := by
  subst hA
  exact List.foldl_hom (fun t => ({ s with Zij_a := t } : UWLoc α)) (fun _ _ => rfl)

theorem uw_assort_layer_body (hA : assort = true) (k a : Nat) (s : UWLoc α) (z : α) (hz : s.Z_kq = z) :
    (uw[updateAffinityCode_1_3] k a s).Z_kq = z ∧ ∀ x,
    un2 (uw[updateAffinityCode_1_3] k a s).w2 x =
      if x.2 = a ∧ (x.1 = k ∧ MTExtra.eps < wOld k k a) then
        snap (wOld k k a / z * wAcc assort K N out u v wOld k k a)
      else un2 s.w2 x := by
  subst hz
  unfold updateAffinityCode_1_3
  by_cases hg : MTExtra.eps < wOld k k a
  · obtain ⟨⟨h1, h2, -⟩, h3⟩ :=
      uw_acc_of assort K N out u v wOld (fun i j => forRange K (uw[updateAffinityCode_1_3_1_1_1] k a i j))
        (uw[updateAffinityCode_1_3_1_1] k a) (uw[updateAffinityCode_1_3_1] k a) k k a
        (uw_assort_Zij assort K L N uList vList out u v wOld hA k a) (fun _ _ _ => rfl) (fun _ _ => rfl) s
    simp only [diag2, hg, if_true, forRange, h1, h2, h3, setAt2_self, snap, apply_ite UWLoc.Z_kq, apply_ite UWLoc.w2,
      setAt2_setAt2, ← apply_ite (setAt2 s.w2 k a), ite_self, un2_setAt2, and_true, implies_true]
  · simp [diag2, hg]

theorem uw_assort_layers (hA : assort = true) (k : Nat) (s : UWLoc α) (x : Nat × Nat) :
    un2 (forRange L (uw[updateAffinityCode_1_3] k) s).w2 x
      = if x.2 < L ∧ (x.1 = k ∧ MTExtra.eps < wOld k k x.2) then
          snap (wOld k k x.2 / s.Z_kq * wAcc assort K N out u v wOld k k x.2)
        else un2 s.w2 x :=
  forRange_select_inv (I := fun s' => s'.Z_kq = s.Z_kq) (fun s' => un2 s'.w2) (uw[updateAffinityCode_1_3] k)
    (fun a s' hs' => uw_assort_layer_body assort K L N uList vList out u v wOld hA k a s' s.Z_kq hs') L s rfl x

theorem uw_assort_Dv (k : Nat) (s : UWLoc α) :
    forList vList (uw[updateAffinityCode_1_1] k) s = { s with Dv := accL vList (fun i => v i k) s.Dv } :=
  List.foldl_hom (fun t => ({ s with Dv := t } : UWLoc α)) (fun _ _ => rfl)

theorem uw_assort_Du (k : Nat) (s : UWLoc α) :
    forList uList (uw[updateAffinityCode_1_2] k) s = { s with Du := accL uList (fun i => u i k) s.Du } :=
  List.foldl_hom (fun t => ({ s with Du := t } : UWLoc α)) (fun _ _ => rfl)

theorem uw_assort_k_body (hA : assort = true) (k : Nat) (s : UWLoc α) (x : Nat × Nat) :
    un2 (uw[updateAffinityCode_1] k s).w2 x
      = if x.1 = k ∧ (x.2 < L ∧ (MTExtra.eps < wZ uList vList u v k k ∧ MTExtra.eps < wOld k k x.2)) then
          snap (wOld k k x.2 / wZ uList vList u v k k * wAcc assort K N out u v wOld k k x.2)
        else un2 s.w2 x := by
  unfold updateAffinityCode_1
  rw [if_pos hA]
  simp only [uw_assort_Dv, uw_assort_Du]
  rw [wZ_unfold]
  split
  · rename_i hz
    rw [uw_assort_layers assort K L N uList vList out u v wOld hA]
    by_cases h2 : x.1 = k <;> simp [hz, h2]
  · rename_i hz
    simp [hz]

theorem updateAffinityCode_refines_assortative (hA : assort = true) (s0 : UWLoc α)
    (h0 : ∀ k a, s0.w2 k a = wOld k k a) (k a : Nat) :
    (uwTop s0).w2 k a =
      if k < K ∧ a < L then updWEntry assort K N uList vList out u v wOld k k a else wOld k k a := by
  have h := forRange_select (fun s : UWLoc α => un2 s.w2) (uw[updateAffinityCode_1])
    (uw_assort_k_body assort K L N uList vList out u v wOld hA) K s0 (k, a)
  simp only [un2, h0] at h
  unfold updateAffinityCode updWEntry
  rw [h]
  by_cases hR : k < K ∧ a < L
  · obtain ⟨hk, ha⟩ := hR
    simp only [hk, ha, true_and, and_self, if_true]
  · rw [if_neg hR, if_neg (fun h => hR ⟨h.1, h.2.1⟩)]

end uw
end
end MT.CodeRefine
