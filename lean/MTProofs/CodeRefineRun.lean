/-
`Solver::run`.  The generated code has its structure from the source and the meaning of each statement from the
table in tools/gen_run_code.py.  Inside one pass of the loop over realizations everything up to the end of the `while`
is an equation of states: the work slots and loop scalars receive the model's realization (`setWork`), the rest is
untouched by definition.  Across passes the code state and the model's accumulator stay related (`RRel`).
-/
import MT.Main
import MT.Generated.RunCode
import MTProofs.Folds
import MTProofs.Steps

set_option linter.unusedSectionVars false

namespace MT.CodeRefine
open MT MT.Imp MT.Gen MTProofs

section
variable {α : Type} [Add α] [Sub α] [Mul α] [Div α] [LT α] [DecidableLT α] [MTExtra α]

theorem code_eq_zero_iff (r : Reason) : r.code = 0 ↔ r = Reason.noTermination := by
  cases r <;> simp [Reason.code]

variable (directed assort : Bool) (ik : InitKind) (K N : Nat) (nv : NetView) (maxIt nConv : Nat)
  (evalL : Nat → Nat → State α → α) (userW : Tens α) (d : Nat → α)

/-- Undirected, `loopStep` does not depend on the in-membership slot: a sweep hands it on as it found it
(`sweep_with_v`), and `hE` makes the evaluation blind to it. -/
theorem loopStep_undirected_agree (hdir : nv.directed = false) (ev : Nat → State α → α)
    (hE : ∀ it (s : State α) (v' : Tens α), ev it { s with v := v' } = ev it s)
    (u w v1 v2 : Tens α) (c : Ctl α) :
    let a := loopStep assort K nv maxIt nConv ev ⟨u, v1, w⟩ c
    let b := loopStep assort K nv maxIt nConv ev ⟨u, v2, w⟩ c
    a.1.u = b.1.u ∧ a.1.w = b.1.w ∧ a.2 = b.2 := by
  have h1 : sweep assort K nv ⟨u, v1, w⟩ = { sweep assort K nv ⟨u, v2, w⟩ with v := v1 } :=
    sweep_with_v assort K nv ⟨u, v2, w⟩ hdir v1
  unfold loopStep
  dsimp only
  refine ⟨by rw [h1], by rw [h1], ?_⟩
  rw [h1, hE]

/-- The work slots and loop scalars of `s` loaded with a state, counters and reason of the model.  Undirected, the code
never writes `v_temp`. -/
def setWork (s : RunLoc α) (r : State α × Ctl α × Reason) : RunLoc α :=
  { s with u_temp := r.1.u, v_temp := if directed then r.1.v else s.v_temp, w_temp := r.1.w,
           iteration := r.2.1.iteration, coincide := r.2.1.coincide, L2 := r.2.1.L2, term_reason := r.2.2.code }

/-- the statements of `runCode_real` before the `while` -/
def realInit (s : RunLoc α) : RunLoc α :=
  let r := initAff assort ik K nv.nL userW (fun t => d (s.pos + t))
  let s : RunLoc α := { s with w_temp := r.1, pos := s.pos + r.2 }
  let s : RunLoc α := (if directed then
      let s : RunLoc α := { s with v_temp := Tens.zeros N K 1 }
      let r := initRows N K nv.vList (fun j k => s.v_temp.get j k 0) (fun t => d (s.pos + t))
      { s with v_temp := r.1, pos := s.pos + r.2 }
    else s)
  let s : RunLoc α := { s with u_temp := Tens.zeros N K 1 }
  let r := initRows N K nv.uList (fun j k => s.u_temp.get j k 0) (fun t => d (s.pos + t))
  let s : RunLoc α := { s with u_temp := r.1, pos := s.pos + r.2 }
  { s with L2 := MTExtra.lowest, iteration := 0, coincide := 0, term_reason := 0 }

/-- the statements of `runCode_real` after the `while` -/
def realTail (s : RunLoc α) : RunLoc α :=
  let s : RunLoc α := { s with vec_iter := s.vec_iter ++ [s.iteration] }
  let s : RunLoc α := { s with vec_term_reason := s.vec_term_reason ++ [s.term_reason] }
  let s : RunLoc α := (if maxL2 s.vec_L2 < s.L2 then
      let s : RunLoc α := { s with w := s.w_temp, w_temp := s.w }
      let s : RunLoc α := { s with u := s.u_temp, u_temp := s.u }
      (if directed then { s with v := s.v_temp, v_temp := s.v } else s)
    else s)
  { s with vec_L2 := s.vec_L2 ++ [s.L2] }

variable {directed assort ik K N nv maxIt nConv evalL userW d}

theorem setWork_setWork (s : RunLoc α) (r r' : State α × Ctl α × Reason) :
    setWork directed (setWork directed s r) r' = setWork directed s r' := by
  cases directed <;> rfl

/-- One pass of the `while` is the model's `loopStep` on the work slots.  Undirected, `Solver::run` passes `u_temp` in
the v-slot while the model carries the empty tensor of `realizationStart`: `v` is arbitrary then, and `hE` makes the
likelihood blind to the difference. -/
theorem while_body_eq (hd : nv.directed = directed)
    (hE : directed = false → ∀ i it (s : State α) (v' : Tens α), evalL i it { s with v := v' } = evalL i it s)
    (i : Nat) (s : RunLoc α) (v : Tens α) (hv : directed = true → v = s.v_temp) :
    runCode_while directed assort ik K N nv maxIt nConv evalL userW d i s =
      setWork directed s
        (loopStep assort K nv maxIt nConv (evalL i) ⟨s.u_temp, v, s.w_temp⟩ ⟨s.iteration, s.coincide, s.L2⟩) := by
  cases directed
  · obtain ⟨g1, g2, g3⟩ := loopStep_undirected_agree assort K nv maxIt nConv hd (evalL i) (hE rfl i)
      s.u_temp s.w_temp s.u_temp v ⟨s.iteration, s.coincide, s.L2⟩
    unfold runCode_while setWork
    simp only [Bool.false_eq_true, if_false]
    rw [g1, g2, g3]
  · obtain rfl := hv rfl
    rfl

/-- The `while` is an assignment to the work slots and loop scalars: they receive the model's `runLoop`. -/
theorem while_eq (hd : nv.directed = directed)
    (hE : directed = false → ∀ i it (s : State α) (v' : Tens α), evalL i it { s with v := v' } = evalL i it s)
    (i fuel : Nat) (s : RunLoc α) (v : Tens α) (hv : directed = true → v = s.v_temp) (h0 : s.term_reason = 0) :
    whileFuel fuel (fun s => decide (s.term_reason = 0))
        (runCode_while directed assort ik K N nv maxIt nConv evalL userW d i) s =
      setWork directed s
        (runLoop assort K nv maxIt nConv (evalL i) fuel ⟨s.u_temp, v, s.w_temp⟩ ⟨s.iteration, s.coincide, s.L2⟩) := by
  induction fuel generalizing s v with
  | zero =>
    -- loading a state with its own contents gives it back
    cases s
    subst h0
    cases directed
    · rfl
    · cases hv rfl; rfl
  | succ n ih =>
    rw [whileFuel, runLoop, if_pos (decide_eq_true h0), while_body_eq hd hE i s v hv]
    generalize loopStep assort K nv maxIt nConv (evalL i) ⟨s.u_temp, v, s.w_temp⟩ ⟨s.iteration, s.coincide, s.L2⟩ = r
    by_cases hr : r.2.2 = Reason.noTermination
    · rw [if_pos hr, ih _ r.1.v (fun h => (if_pos h).symm) (congrArg Reason.code hr), setWork_setWork]
      rfl
    · rw [if_neg hr]
      exact whileFuel_stop _ _ _ _ (decide_eq_false (mt (code_eq_zero_iff _).1 hr))

theorem runCode_real_eq (i : Nat) (s : RunLoc α) :
    runCode_real directed assort ik K N nv maxIt nConv evalL userW d i s =
      realTail directed (whileFuel maxIt (fun s => decide (s.term_reason = 0))
        (runCode_while directed assort ik K N nv maxIt nConv evalL userW d i)
        (realInit directed assort ik K N nv userW d s)) := rfl

/-- The statements before the `while` draw the model's start and move the stream on by what it used. -/
theorem realInit_eq (hd : nv.directed = directed) (s : RunLoc α) :
    realInit directed assort ik K N nv userW d s =
      let st := realizationStart assort ik K N nv userW (fun t => d (s.pos + t))
      setWork directed { s with pos := s.pos + st.2 } (st.1, ctlInit, Reason.noTermination) := by
  subst hd
  unfold realInit realizationStart setWork
  cases nv.directed <;> simp [zeros_get, Nat.add_assoc, ctlInit, Reason.code]

/-- Up to its last statements a pass of `runCode_real` leaves the model's realization in the work slots. -/
theorem realWhile_eq (hd : nv.directed = directed)
    (hE : directed = false → ∀ i it (s : State α) (v' : Tens α), evalL i it { s with v := v' } = evalL i it s)
    (i : Nat) (s : RunLoc α) :
    whileFuel maxIt (fun s => decide (s.term_reason = 0))
        (runCode_while directed assort ik K N nv maxIt nConv evalL userW d i)
        (realInit directed assort ik K N nv userW d s) =
      let st := realizationStart assort ik K N nv userW (fun t => d (s.pos + t))
      setWork directed { s with pos := s.pos + st.2 }
        (runLoop assort K nv maxIt nConv (evalL i) maxIt st.1 ctlInit) := by
  rw [realInit_eq hd, while_eq hd hE i maxIt _
    (realizationStart assort ik K N nv userW (fun t => d (s.pos + t))).1.v (fun h => (if_pos h).symm) rfl]
  exact setWork_setWork _ _ _

/-- Between realizations: the code's `u, v, w` and report vectors are the model's accumulator. -/
def RRel (s : RunLoc α) (acc : RunAcc α) : Prop :=
  s.u = acc.best.u ∧ s.v = acc.best.v ∧ s.w = acc.best.w ∧ s.pos = acc.pos ∧
  s.vec_iter = acc.report.iters ∧ s.vec_term_reason = acc.report.reasons.map Reason.code ∧
  s.vec_L2 = acc.report.L2s

theorem run_real_step (hd : nv.directed = directed)
    (hE : directed = false → ∀ i it (s : State α) (v' : Tens α), evalL i it { s with v := v' } = evalL i it s)
    (i : Nat) (s : RunLoc α) (acc : RunAcc α) (h : RRel s acc) :
    RRel (runCode_real directed assort ik K N nv maxIt nConv evalL userW d i s)
      (runOne assort ik K N nv maxIt nConv evalL userW d acc i) := by
  obtain ⟨r1, r2, r3, r4, r5, r6, r7⟩ := h
  subst hd
  rw [runCode_real_eq, realWhile_eq rfl hE, r4]
  unfold runOne runRealization
  dsimp only
  generalize realizationStart assort ik K N nv userW (fun t => d (acc.pos + t)) = st
  generalize runLoop assort K nv maxIt nConv (evalL i) maxIt st.1 ctlInit = R
  unfold realTail setWork
  dsimp only
  have h6 : s.vec_term_reason ++ [R.2.2.code] = (acc.report.reasons ++ [R.2.2]).map Reason.code := by
    rw [r6, List.map_append]; rfl
  simp only [r7, decide_eq_true_eq]
  by_cases hadopt : maxL2 acc.report.L2s < R.2.1.L2
  · by_cases hdir : nv.directed = true
    · simp only [if_pos hadopt, if_pos hdir]
      exact ⟨rfl, rfl, rfl, rfl, congrArg (· ++ _) r5, h6, rfl⟩
    · simp only [if_pos hadopt, if_neg hdir]
      exact ⟨rfl, r2, rfl, rfl, congrArg (· ++ _) r5, h6, rfl⟩
  · simp only [if_neg hadopt]
    exact ⟨r1, r2, r3, rfl, congrArg (· ++ _) r5, h6, rfl⟩

variable (directed assort ik K N nv maxIt nConv evalL userW d) in
/-- `hE`: undirected, the likelihood does not look at the v-slot (the code passes `u_temp` there, the model the empty
tensor of `realizationStart`). -/
theorem runCode_refines (hd : nv.directed = directed)
    (hE : directed = false → ∀ i it (s : State α) (v' : Tens α), evalL i it { s with v := v' } = evalL i it s)
    (r : Nat) (prior : State α) (s0 : RunLoc α)
    (h0 : s0.u = prior.u ∧ s0.v = prior.v ∧ s0.w = prior.w ∧ s0.pos = 0 ∧ s0.vec_iter = [] ∧
      s0.vec_term_reason = [] ∧ s0.vec_L2 = []) :
    RRel (runCode directed assort ik K N nv maxIt nConv evalL userW d r s0)
      (runAll assort ik K N nv r maxIt nConv evalL userW d prior) :=
  foldl_rel RRel (fun s acc i => run_real_step hd hE i s acc) _ h0

end
end MT.CodeRefine
