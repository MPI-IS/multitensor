/-
`update_vertices`, from the loop nest translated from solver.hpp (MT/Generated/SolverCode.lean, rewritten on every
run by tools/cxx2lean.py).  A loop that accumulates in one field is an equation of states (`List.foldl_hom` along the
embedding of the field); from the level where the scratch fields die a loop is seen through the field it hands on
(`foldl_proj_inv`); the loops that write one entry per index end in `foldl_setAt2` / `forRange_select`.
-/
import MT.Solver
import MT.Generated.SolverCode
import MTProofs.Folds

set_option linter.unusedSectionVars false

namespace MT.CodeRefine
open MT MT.Imp MT.Gen

section
variable {α : Type} [Add α] [Sub α] [Mul α] [Div α] [LT α] [DecidableLT α] [MTExtra α]

section uv
variable (assort : Bool) (K L : Nat) (numList denList : List Nat) (nbr : Nat → Nat → List Nat)
  (wf : Nat → Nat → Nat → α) (old fixedOld : Nat → Nat → α)

theorem uv_fold_w_k {ι : Type} (l : List ι) (g : ι → α) (s : UVLoc α) :
    l.foldl (fun (s : UVLoc α) i => { s with w_k := s.w_k + g i }) s
      = { s with w_k := accL l g s.w_k } :=
  List.foldl_hom (fun t => ({ s with w_k := t } : UVLoc α)) (fun _ _ => rfl)

local notation "uv[" f "]" => f assort K L numList denList nbr (diag2 wf) wf old fixedOld
local notation "uvTop" => uv[updateVerticesCode]

theorem uv_wk_assort (k : Nat) (s : UVLoc α) :
    forRange L (uv[updateVerticesCode_1_1] k) s
      = { s with w_k := accL (List.range L) (fun a => wf k k a) s.w_k } :=
  uv_fold_w_k ..

theorem uv_D_assort (k : Nat) (s : UVLoc α) :
    forList denList (uv[updateVerticesCode_1_2] k) s
      = { s with D := accL denList (fun i => fixedOld i k) s.D } :=
  List.foldl_hom (fun t => ({ s with D := t } : UVLoc α)) (fun _ _ => rfl)

theorem uv_Z_general_body (k l : Nat) (s : UVLoc α) :
    uv[updateVerticesCode_1_3] k l s
      = { s with D := sumL denList (fun i => fixedOld i l),
                 w_k := sumL (List.range L) (fun a => wf k l a),
                 Z := s.Z + sumL (List.range L) (fun a => wf k l a) * sumL denList (fun i => fixedOld i l) } := by
  have h1 (s : UVLoc α) : forRange L (uv[updateVerticesCode_1_3_1] k l) s
      = { s with w_k := accL (List.range L) (fun a => wf k l a) s.w_k } := uv_fold_w_k ..
  have h2 (s : UVLoc α) : forList denList (uv[updateVerticesCode_1_3_2] k l) s
      = { s with D := accL denList (fun i => fixedOld i l) s.D } :=
    List.foldl_hom (fun t => ({ s with D := t } : UVLoc α)) (fun _ _ => rfl)
  unfold updateVerticesCode_1_3
  simp only [h1, h2]
  rfl

theorem uv_Zij (k i a j : Nat) (s : UVLoc α) :
    forRange K (uv[updateVerticesCode_1_4_1_1_1] k i a j) s
      = { s with Zij_a := (List.range K).foldl (fun z m =>
            accL (cols assort K m) (fun l => old i m * fixedOld j l * wf m l a) z) s.Zij_a } := by
  refine List.foldl_hom (fun t => ({ s with Zij_a := t } : UVLoc α)) (fun t m => ?_)
  unfold updateVerticesCode_1_4_1_1_1
  cases assort
  · exact List.foldl_hom (fun t => ({ s with Zij_a := t } : UVLoc α)) (fun _ _ => rfl)
  · rfl

theorem uv_rho_general (k i a j : Nat) (s : UVLoc α) :
    forRange K (uv[updateVerticesCode_1_4_1_1_2] k i a j) s
      = { s with rho_ijkq := accL (List.range K) (fun q => fixedOld j q * wf k q a) s.rho_ijkq } :=
  List.foldl_hom (fun t => ({ s with rho_ijkq := t } : UVLoc α)) (fun _ _ => rfl)

theorem vZ_unfold (k : Nat) :
    vZ assort K L denList wf fixedOld k
      = if assort then
          MTExtra.zero + accL (List.range L) (fun a => wf k k a) MTExtra.zero *
            accL denList (fun i => fixedOld i k) MTExtra.zero
        else accL (List.range K)
          (fun l => sumL (List.range L) (fun a => wf k l a) * sumL denList (fun i => fixedOld i l)) MTExtra.zero :=
  foldl_cols assort K k _ _

theorem vZij_unfold (i j a : Nat) :
    vZij assort K wf fixedOld old i j a
      = (List.range K).foldl (fun z m =>
          accL (cols assort K m) (fun l => old i m * fixedOld j l * wf m l a) z) MTExtra.zero :=
  foldl_gpairs assort K _ _

theorem vRhoNum_unfold (k j a : Nat) :
    sumL (cols assort K k) (fun q => fixedOld j q * wf k q a)
      = if assort then MTExtra.zero + fixedOld j k * wf k k a
        else accL (List.range K) (fun q => fixedOld j q * wf k q a) MTExtra.zero :=
  foldl_cols assort K k _ _

theorem vVal_unfold (i k : Nat) :
    vVal assort K L nbr wf fixedOld old i k
      = (List.range L).foldl (fun v a => (nbr a i).foldl (fun v j =>
          if MTExtra.eps < vZij assort K wf fixedOld old i j a
          then v + vRho assort K wf fixedOld old i k j a else v) v) MTExtra.zero := by
  simp only [vVal, edgePairs, sumL, List.foldl_filter, List.foldl_flatMap, List.foldl_map, decide_eq_true_eq]

theorem uv_edge_body (k i a j : Nat) (s : UVLoc α) :
    uv[updateVerticesCode_1_4_1_1] k i a j s
      = { s with
          Zij_a := vZij assort K wf fixedOld old i j a,
          rho_ijkq := if MTExtra.eps < vZij assort K wf fixedOld old i j a
                      then vRho assort K wf fixedOld old i k j a else MTExtra.zero,
          val_ik := if MTExtra.eps < vZij assort K wf fixedOld old i j a
                    then s.val_ik + vRho assort K wf fixedOld old i k j a else s.val_ik } := by
  unfold updateVerticesCode_1_4_1_1
  simp only [uv_Zij, uv_rho_general, ← vZij_unfold]
  by_cases hz : MTExtra.eps < vZij assort K wf fixedOld old i j a
  · simp only [hz, if_true]
    unfold vRho
    rw [vRhoNum_unfold]
    cases assort <;> simp
  · simp only [hz, if_false]

theorem uv_val (k i : Nat) (s : UVLoc α) :
    let s' := forRange L (uv[updateVerticesCode_1_4_1] k i) { s with val_ik := MTExtra.zero }
    (s'.Z = s.Z ∧ s'.mat_to_update = s.mat_to_update) ∧ s'.val_ik = vVal assort K L nbr wf fixedOld old i k := by
  rw [vVal_unfold]
  let I (s' : UVLoc α) : Prop := s'.Z = s.Z ∧ s'.mat_to_update = s.mat_to_update
  refine foldl_proj_inv (I := I) UVLoc.val_ik { s with val_ik := MTExtra.zero } ⟨rfl, rfl⟩
    (fun s' a hs' => ?_) (List.range L)
  refine foldl_proj_inv (I := I) UVLoc.val_ik s' hs' (fun s'' j hs'' => ?_) (nbr a i)
  rw [uv_edge_body]
  exact ⟨hs'', rfl⟩

theorem uv_entry_body (k i : Nat) (s : UVLoc α) :
    (uv[updateVerticesCode_1_4] k i s).Z = s.Z ∧
    (uv[updateVerticesCode_1_4] k i s).mat_to_update =
      if MTExtra.eps < old i k then
        setAt2 s.mat_to_update i k (snap (old i k / s.Z * vVal assort K L nbr wf fixedOld old i k))
      else s.mat_to_update := by
  unfold updateVerticesCode_1_4
  by_cases hg : MTExtra.eps < old i k
  -- the source writes the entry and then, if it is small, writes zero over it: two `setAt2` at one place, i.e. `snap`
  · obtain ⟨⟨h2, h3⟩, h1⟩ := uv_val assort K L numList denList nbr wf old fixedOld k i s
    simp only [hg, if_true, h1, h2, h3, setAt2_self, snap, apply_ite UVLoc.Z, apply_ite UVLoc.mat_to_update,
      apply_ite (setAt2 s.mat_to_update i k), setAt2_setAt2, ite_self, and_self]
  · simp [hg]

theorem uv_entries (k : Nat) (s : UVLoc α) :
    (forList numList (uv[updateVerticesCode_1_4] k) s).mat_to_update
      = numList.foldl (fun m i => if MTExtra.eps < old i k then
          setAt2 m i k (snap (old i k / s.Z * vVal assort K L nbr wf fixedOld old i k)) else m) s.mat_to_update :=
  (foldl_proj_inv (I := fun s' => s'.Z = s.Z) UVLoc.mat_to_update s rfl (fun s' i hs' => by
    obtain ⟨h1, h2⟩ := uv_entry_body assort K L numList denList nbr wf old fixedOld k i s'
    rw [h1, h2, hs']
    exact ⟨rfl, rfl⟩) numList).2

theorem uv_entries_guarded (k : Nat) (s : UVLoc α) (z : α) (hs : s.Z = z) (i' k' : Nat) :
    (if MTExtra.eps < z then forList numList (uv[updateVerticesCode_1_4] k) s else s).mat_to_update i' k'
      = if k' = k ∧ (MTExtra.eps < z ∧ i' ∈ numList ∧ MTExtra.eps < old i' k) then
          snap (old i' k / z * vVal assort K L nbr wf fixedOld old i' k)
        else s.mat_to_update i' k' := by
  subst hs
  split
  · rename_i hz
    rw [uv_entries, foldl_setAt2]
    simp only [hz, true_and]
  · rename_i hz
    simp only [hz, false_and, and_false, if_false]

theorem uv_Z_general (k : Nat) (s : UVLoc α) :
    let s' := forRange K (uv[updateVerticesCode_1_3] k) s
    s'.mat_to_update = s.mat_to_update ∧
    s'.Z = accL (List.range K) (fun l => sumL (List.range L) (fun a => wf k l a) *
                        sumL denList (fun i => fixedOld i l)) s.Z :=
  foldl_proj_inv (I := fun s' => s'.mat_to_update = s.mat_to_update) UVLoc.Z s rfl
    (fun s' l hs' => by rw [uv_Z_general_body]; exact ⟨hs', rfl⟩) _

theorem uv_group_body (k : Nat) (s : UVLoc α) (i' k' : Nat) :
    (uv[updateVerticesCode_1] k s).mat_to_update i' k' =
      if k' = k ∧ (MTExtra.eps < vZ assort K L denList wf fixedOld k ∧ i' ∈ numList ∧ MTExtra.eps < old i' k) then
        snap (old i' k / vZ assort K L denList wf fixedOld k * vVal assort K L nbr wf fixedOld old i' k)
      else s.mat_to_update i' k' := by
  unfold updateVerticesCode_1
  rw [vZ_unfold]
  cases assort
  · obtain ⟨hm, hz⟩ := uv_Z_general false K L numList denList nbr wf old fixedOld k { s with Z := MTExtra.zero }
    simp only [Bool.false_eq_true, if_false]
    rw [hz, uv_entries_guarded false K L numList denList nbr wf old fixedOld k _ _ hz, hm]
  · simp only [if_true, uv_wk_assort, uv_D_assort]
    exact uv_entries_guarded true K L numList denList nbr wf old fixedOld k _ _ (by rfl) i' k'

/-- `update_vertices` as written in solver.hpp, started with the matrix equal to its frozen copy (`h0`). -/
theorem updateVerticesCode_refines (s0 : UVLoc α) (h0 : s0.mat_to_update = old) (i k : Nat) :
    (uvTop s0).mat_to_update i k =
      if k < K then updVEntry assort K L numList denList nbr wf fixedOld old i k else old i k := by
  have h := forRange_select (fun s : UVLoc α => un2 s.mat_to_update) (uv[updateVerticesCode_1])
    (fun k s x => uv_group_body assort K L numList denList nbr wf old fixedOld k s x.1 x.2) K s0 (i, k)
  simp only [un2, h0] at h
  unfold updateVerticesCode updVEntry
  rw [h]
  by_cases hk : k < K <;> simp only [hk, true_and, false_and, if_true, if_false]

end uv
end
end MT.CodeRefine
