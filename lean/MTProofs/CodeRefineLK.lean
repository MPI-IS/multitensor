/-
`calculate_likelyhood`: the pair `(l, log_arg)` of one cell is followed through the group loops (`lkTerm`), the
count of parallel edges is `List.count`.
-/
import MT.Solver
import MT.Generated.SolverCode
import MTProofs.Folds

set_option linter.unusedSectionVars false

namespace MT.CodeRefine
open MT MT.Imp MT.Gen

section
variable {α : Type} [Add α] [Sub α] [Mul α] [Div α] [LT α] [DecidableLT α] [MTExtra α]

section lk
variable (assort : Bool) (K L N : Nat) (out : Nat → Nat → List Nat) (u v : Nat → Nat → α)
  (wf : Nat → Nat → Nat → α)

local notation "lk[" f "]" => f assort K L N out u v (diag2 wf) wf
local notation "lkTop" => lk[likelihoodCode]

def lkTerm (has : Bool) (x : α) (p : α × α) : α × α := (p.1 - x, if has then p.2 + x else p.2)

theorem lk_qbody (a i j k q : Nat) (s : LKLoc α) :
    ((lk[likelihoodCode_1_1_1_1_1] a i j k q s).l, (lk[likelihoodCode_1_1_1_1_1] a i j k q s).log_arg)
      = lkTerm ((out a i).contains j) (u i k * v j q * wf k q a) (s.l, s.log_arg) := by
  unfold likelihoodCode_1_1_1_1_1 lkTerm
  cases (out a i).contains j <;> simp

theorem lk_kbody (a i j k : Nat) (s : LKLoc α) :
    ((lk[likelihoodCode_1_1_1_1] a i j k s).l, (lk[likelihoodCode_1_1_1_1] a i j k s).log_arg)
      = (cols assort K k).foldl (fun p q => lkTerm ((out a i).contains j) (u i k * v j q * wf k q a) p)
          (s.l, s.log_arg) := by
  unfold likelihoodCode_1_1_1_1
  rw [foldl_cols]
  cases assort
  · simp only [Bool.false_eq_true, if_false]
    exact foldl_proj (fun s : LKLoc α => (s.l, s.log_arg)) _ _
      (fun s q => lk_qbody false K L N out u v wf a i j k q s) (List.range K) s
  · exact lk_qbody true K L N out u v wf a i j k k s

theorem lk_kloop (a i j : Nat) (s : LKLoc α) :
    let s' := forRange K (lk[likelihoodCode_1_1_1_1] a i j) s
    let r := (gpairs assort K).foldl
      (fun p kq => lkTerm ((out a i).contains j) (u i kq.1 * v j kq.2 * wf kq.1 kq.2 a) p) (s.l, s.log_arg)
    s'.l = r.1 ∧ s'.log_arg = r.2 := by
  rw [foldl_gpairs]
  exact Prod.ext_iff.mp (foldl_proj (fun s : LKLoc α => (s.l, s.log_arg)) _ _
    (fun s k => lk_kbody assort K L N out u v wf a i j k s) (List.range K) s)

theorem count_fold (l : List Nat) (j n0 : Nat) :
    l.foldl (fun n t => if t = j then n + 1 else n) n0 = n0 + l.count j := by
  induction l generalizing n0 with
  | nil => simp
  | cons x xs ih =>
    simp only [List.foldl_cons, ih, List.count_cons]
    by_cases h : x = j <;> simp [h] <;> omega

theorem lk_count (a i j : Nat) (s : LKLoc α) :
    let s' := forList (out a i) (lk[likelihoodCode_1_1_1_2] a i j) s
    (s'.l = s.l ∧ s'.log_arg = s.log_arg) ∧ s'.nof_parallel_edges = s.nof_parallel_edges + (out a i).count j := by
  rw [← count_fold]
  refine foldl_proj_inv (I := fun s' => s'.l = s.l ∧ s'.log_arg = s.log_arg) LKLoc.nof_parallel_edges s
    ⟨rfl, rfl⟩ (fun s' t hs' => ?_) (out a i)
  unfold likelihoodCode_1_1_1_2
  by_cases h : t = j <;> simp [h, hs']

theorem lk_jbody (a i j : Nat) (s : LKLoc α) :
    (lk[likelihoodCode_1_1_1] a i j s).l = likCell assort K out u v wf s.l a i j := by
  obtain ⟨h1, h2⟩ := lk_kloop assort K L N out u v wf a i j { s with log_arg := MTExtra.zero }
  obtain ⟨⟨c2, c3⟩, c1⟩ := lk_count assort K L N out u v wf a i j
    { forRange K (lk[likelihoodCode_1_1_1_1] a i j) { s with log_arg := MTExtra.zero } with nof_parallel_edges := 0 }
  unfold likelihoodCode_1_1_1 likCell
  simp only [apply_ite LKLoc.l, c1, c2, c3, Nat.zero_add]
  simp only [h1, h2]
  rfl

/-- `h0`: the value returned is field `l`, which the declaration `double l(0)` starts at zero. -/
theorem likelihoodCode_refines (s0 : LKLoc α) (h0 : s0.l = MTExtra.zero) :
    (lkTop s0).l = likelihood assort K L N out u v wf := by
  unfold likelihoodCode likelihood
  simp only [forRange]
  rw [← h0]
  refine foldl_proj (fun s : LKLoc α => s.l) (fun s a => lk[likelihoodCode_1] a s) _ (fun s a => ?_) (List.range L) s0
  unfold likelihoodCode_1
  simp only [forRange]
  refine foldl_proj (fun s : LKLoc α => s.l) (fun s i => lk[likelihoodCode_1_1] a i s) _ (fun s i => ?_) (List.range N) s
  unfold likelihoodCode_1_1
  simp only [forRange]
  refine foldl_proj (fun s : LKLoc α => s.l) (fun s j => lk[likelihoodCode_1_1_1] a i j s) _ (fun s j => ?_) (List.range N) s
  exact lk_jbody assort K L N out u v wf a i j s

end lk
end
end MT.CodeRefine
