import MTProofs.Refine
import Mathlib.Algebra.BigOperators.Field
import Mathlib.Tactic.Ring

namespace MTProofs
open MT Finset

/-! Each law of `gsum` is the Finset law over the index set `gP`. -/

theorem gsum_congr' {assort : Bool} {K : Nat} {f g : Nat → Nat → ℝ}
    (h : ∀ k q, k < K → q < K → (assort = true → k = q) → f k q = g k q) : gsum assort K f = gsum assort K g := by
  rw [gsum_eq_sum_gP, gsum_eq_sum_gP]
  exact sum_congr rfl fun p hp => h _ _ (mem_gP_iff.1 hp).1 (mem_gP_iff.1 hp).2.1 (mem_gP_iff.1 hp).2.2

theorem gsum_congr {assort : Bool} {K : Nat} {f g : Nat → Nat → ℝ}
    (h : ∀ k q, k < K → q < K → f k q = g k q) : gsum assort K f = gsum assort K g :=
  gsum_congr' fun k q hk hq _ => h k q hk hq

theorem gsum_add (assort : Bool) (K : Nat) (f g : Nat → Nat → ℝ) :
    gsum assort K (fun k q => f k q + g k q) = gsum assort K f + gsum assort K g := by
  simp only [gsum_eq_sum_gP]; exact sum_add_distrib

theorem mul_gsum (assort : Bool) (K : Nat) (c : ℝ) (f : Nat → Nat → ℝ) :
    c * gsum assort K f = gsum assort K (fun k q => c * f k q) := by
  simp only [gsum_eq_sum_gP]; exact mul_sum ..

theorem gsum_div (assort : Bool) (K : Nat) (c : ℝ) (f : Nat → Nat → ℝ) :
    gsum assort K f / c = gsum assort K (fun k q => f k q / c) := by
  simp only [gsum_eq_sum_gP]; exact sum_div ..

theorem sum_gsum (assort : Bool) (K : Nat) (s : Finset Nat) (f : Nat → Nat → Nat → ℝ) :
    ∑ i ∈ s, gsum assort K (f i) = gsum assort K (fun k q => ∑ i ∈ s, f i k q) := by
  simp only [gsum_eq_sum_gP]; exact sum_comm

theorem gsum_zero (assort : Bool) (K : Nat) : gsum assort K (fun _ _ => 0) = 0 := by
  rw [gsum_eq_sum_gP]; exact sum_const_zero

theorem gsum_nonneg {assort : Bool} {K : Nat} {f : Nat → Nat → ℝ} (h : ∀ k q, k < K → q < K → 0 ≤ f k q) :
    0 ≤ gsum assort K f := by
  rw [gsum_eq_sum_gP]; exact sum_nonneg fun p hp => h _ _ (mem_gP hp).1 (mem_gP hp).2

theorem gsum_swap (assort : Bool) (K : Nat) (f : Nat → Nat → ℝ) :
    gsum assort K f = gsum assort K fun k q => f q k := by
  unfold gsum; split
  · rfl
  · exact sum_comm

theorem rate_swap (assort : Bool) (K : Nat) (wf wfT : Nat → Nat → Nat → ℝ) (a : Nat)
    (hT : ∀ k l, k < K → l < K → (assort = true → k = l) → wfT k l a = wf l k a)
    (u v : Nat → Nat → ℝ) (i j : Nat) :
    rate assort K wfT u v j i a = rate assort K wf v u i j a := by
  unfold rate
  rw [gsum_swap]
  exact gsum_congr' fun m l hm hl hd => by
    rw [hT l m hl hm fun h => (hd h).symm]; ring

theorem sumL_support {l : List Nat} {N : Nat} (hnd : l.Nodup) (hl : ∀ i ∈ l, i < N) {f : Nat → ℝ}
    (hz : ∀ i, i < N → i ∉ l → f i = 0) : sumL l f = ∑ i ∈ range N, f i := by
  rw [sumL_eq_sum, ← List.sum_toFinset f hnd]
  exact sum_subset (fun i hi => mem_range.mpr (hl i (List.mem_toFinset.mp hi)))
    fun i hi hn => hz i (mem_range.mp hi) fun h => hn (List.mem_toFinset.mpr h)

section
variable (assort : Bool) (K N : Nat) (uList vList : List Nat) (out : Nat → Nat → List Nat)
  (u v : Nat → Nat → ℝ) (w : Nat → Nat → Nat → ℝ) (a : Nat)

noncomputable def rawW (k q : Nat) : ℝ :=
  w k q a / specWZ uList vList u v k q * specWAcc assort K N out u v w k q a

/-- mass of the entries snapped to zero in this step: `Σ Du_k Dv_q · (value before truncation)` -/
noncomputable def snappedMass : ℝ :=
  gsum assort K fun k q =>
    if ε < specWZ uList vList u v k q ∧ ε < w k q a ∧ |rawW assort K N uList vList out u v w a k q| < ε then
      specWZ uList vList u v k q * rawW assort K N uList vList out u v w a k q
    else 0

noncomputable def newW : Nat → Nat → Nat → ℝ :=
  fun k q a' => specWEntry assort K N uList vList out u v w k q a'

theorem sum_rate_eq_gsum (wf : Nat → Nat → Nat → ℝ)
    (hU : ∀ k, sumL uList (fun i => u i k) = ∑ i ∈ range N, u i k)
    (hV : ∀ q, sumL vList (fun j => v j q) = ∑ j ∈ range N, v j q) :
    ∑ i ∈ range N, ∑ j ∈ range N, rate assort K wf v u i j a =
      gsum assort K fun k q => wf k q a * specWZ uList vList u v k q := by
  unfold rate
  simp_rw [sum_gsum]
  apply gsum_congr
  intro k q _ _
  unfold specWZ
  rw [hU, hV, sum_mul_sum, mul_sum]
  apply sum_congr rfl; intro i _
  rw [mul_sum]
  apply sum_congr rfl; intro j _
  ring

variable {assort K N uList vList out u v w a} in
/-- entry `(k,q)` of the affinity step times its normaliser, plus what truncation took from it: the old entry
times its numerator -/
theorem newW_mul_specWZ {k q : Nat} (hW : w k q a = 0 ∨ ε < w k q a)
    (hZ : 0 < w k q a → ε < specWZ uList vList u v k q) :
    newW assort K N uList vList out u v w k q a * specWZ uList vList u v k q +
        (if ε < specWZ uList vList u v k q ∧ ε < w k q a ∧ |rawW assort K N uList vList out u v w a k q| < ε then
          specWZ uList vList u v k q * rawW assort K N uList vList out u v w a k q else 0)
      = w k q a * specWAcc assort K N out u v w k q a := by
  simp only [← and_assoc]
  rw [newW, specWEntry, ← rawW, guarded_add_snapped]
  rcases hW with h0 | hpos
  · rw [if_neg fun hc => absurd hc.2 (by rw [h0]; exact not_lt.mpr eps_pos.le), h0, zero_mul, zero_mul]
  · have hZ' := hZ (lt_trans eps_pos hpos)
    rw [if_pos ⟨hZ', hpos⟩, rawW, mul_right_comm, div_mul_cancel₀ _ (lt_trans eps_pos hZ').ne']

variable {assort K N out u v w a} in
/-- every observed edge `(i,j)` is shared out among the group pairs in proportion to `u_ik v_jq w_kq`, and the
numerators collect these shares: together they give back the edges -/
theorem gsum_mul_specWAcc
    (hRates : ∀ i j, i < N → j < N → 0 < (out a i).count j → ε < rate assort K w v u i j a) :
    gsum assort K (fun k q => w k q a * specWAcc assort K N out u v w k q a) =
      ∑ i ∈ range N, ∑ j ∈ range N, ((out a i).count j : ℝ) := by
  simp only [specWAcc_of_rates hRates, mul_sum]
  rw [← sum_gsum]
  refine sum_congr rfl fun i hi => ?_
  rw [← sum_gsum]
  refine sum_congr rfl fun j hj => ?_
  rcases Nat.eq_zero_or_pos ((out a i).count j) with hA | hA
  · simp only [hA, Nat.cast_zero, zero_mul, mul_zero, gsum_zero]
  · have hM : rate assort K w v u i j a ≠ 0 :=
      (lt_trans eps_pos (hRates i j (mem_range.mp hi) (mem_range.mp hj) hA)).ne'
    rw [gsum_congr (g := fun k q => ((out a i).count j : ℝ) * (u i k * v j q * w k q a / rate assort K w v u i j a))
      fun k q _ _ => by ring, ← mul_gsum, ← gsum_div]
    exact (congrArg _ (div_self hM)).trans (mul_one _)

/-- C09, with the exact form of "up to the mass of entries snapped to zero". -/
theorem mass_balance
    (hU : ∀ k, sumL uList (fun i => u i k) = ∑ i ∈ range N, u i k)
    (hV : ∀ q, sumL vList (fun j => v j q) = ∑ j ∈ range N, v j q)
    (hRates : ∀ i j, i < N → j < N → 0 < (out a i).count j → ε < rate assort K w v u i j a)
    (hW : ∀ k q, k < K → q < K → w k q a = 0 ∨ ε < w k q a)
    (hZ : ∀ k q, k < K → q < K → 0 < w k q a → ε < specWZ uList vList u v k q) :
    (∑ i ∈ range N, ∑ j ∈ range N,
        rate assort K (newW assort K N uList vList out u v w) v u i j a)
      + snappedMass assort K N uList vList out u v w a
      = ∑ i ∈ range N, ∑ j ∈ range N, ((out a i).count j : ℝ) := by
  rw [sum_rate_eq_gsum assort K N uList vList u v a _ hU hV]
  unfold snappedMass
  rw [← gsum_add, gsum_congr fun k q hk hq => newW_mul_specWZ (hW k q hk hq) (hZ k q hk hq)]
  exact gsum_mul_specWAcc hRates

end

end MTProofs
