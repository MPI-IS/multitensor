import MT.Main
import MTProofs.Tensor

namespace MTProofs
open MT
open MTProps.C18 (mul_add_lt)

theorem rowStart_succ (K i : Nat) : rowStart K (i + 1) = rowStart K i + (K - i) := rfl

theorem rowStart_mono (K : Nat) {i j : Nat} (h : i ≤ j) : rowStart K i ≤ rowStart K j := by
  induction h with
  | refl => exact Nat.le_refl _
  | step _ ih => exact Nat.le_trans ih (Nat.le_add_right _ _)

/-- closed form: rows `0..i-1` make `i*K - i(i-1)/2` draws; in particular `K(K+1)/2` per layer -/
theorem two_mul_rowStart (K : Nat) {i : Nat} (hi : i ≤ K) : 2 * rowStart K i + i * i = 2 * (i * K) + i := by
  induction i with
  | zero => simp [rowStart]
  | succ i ih =>
    have := ih (by omega)
    rw [rowStart_succ, Nat.add_one_mul i (i + 1), Nat.add_one_mul i K, Nat.mul_add_one i i]
    omega

theorem rowStart_total (K : Nat) : rowStart K K = K * (K + 1) / 2 := by
  have h := two_mul_rowStart K (le_refl K)
  rw [Nat.mul_add_one]
  omega

theorem triPos_of_le (K : Nat) {i j : Nat} (h : i ≤ j) : triPos K i j = rowStart K i + (j - i) := by
  unfold triPos; rw [Nat.min_eq_left h, Nat.max_eq_right h]

theorem triPos_symm (K i j : Nat) : triPos K i j = triPos K j i := by
  unfold triPos; rw [Nat.min_comm, Nat.max_comm]

/-- row `a` occupies the block `[rowStart K a, rowStart K (a+1))`; the blocks are consecutive, so a position at or
after the start of row `a` and before the end of row `a'` has `a ≤ a'` -/
theorem rowStart_block_le (K : Nat) {a a' t : Nat} (h1 : rowStart K a ≤ t) (h2 : t < rowStart K (a' + 1)) : a ≤ a' :=
  Nat.le_of_not_lt fun h => Nat.lt_irrefl t (Nat.lt_of_lt_of_le h2 (Nat.le_trans (rowStart_mono K h) h1))

theorem rowStart_block_unique (K : Nat) {a a' t : Nat} (h1 : rowStart K a ≤ t) (h2 : t < rowStart K (a + 1))
    (h1' : rowStart K a' ≤ t) (h2' : t < rowStart K (a' + 1)) : a = a' :=
  Nat.le_antisymm (rowStart_block_le K h1 h2') (rowStart_block_le K h1' h2)

theorem rowStart_block_exists (K : Nat) {t : Nat} :
    ∀ n, t < rowStart K n → ∃ a, a < n ∧ rowStart K a ≤ t ∧ t < rowStart K (a + 1)
  | 0, h => absurd h (Nat.not_lt_zero t)
  | n + 1, h =>
    if hlt : t < rowStart K n then
      have ⟨a, h1, h2⟩ := rowStart_block_exists K n hlt
      ⟨a, Nat.lt_succ_of_lt h1, h2⟩
    else ⟨n, Nat.lt_succ_self n, Nat.le_of_not_lt hlt, h⟩

theorem rowStart_add_lt (K : Nat) {a b : Nat} (hab : a ≤ b) (hb : b < K) :
    rowStart K a + (b - a) < rowStart K (a + 1) :=
  Nat.add_lt_add_left (Nat.sub_lt_sub_right hab hb) _

theorem minmax_lt {K i j : Nat} (hi : i < K) (hj : j < K) : min i j ≤ max i j ∧ max i j < K :=
  ⟨Nat.le_trans (Nat.min_le_left _ _) (Nat.le_max_left _ _), Nat.max_lt.mpr ⟨hi, hj⟩⟩

theorem rowStart_add_inj (K : Nat) {a b a' b' : Nat} (hab : a ≤ b) (hb : b < K) (hab' : a' ≤ b') (hb' : b' < K)
    (h : rowStart K a + (b - a) = rowStart K a' + (b' - a')) : a = a' ∧ b = b' := by
  have hlo : a = a' := rowStart_block_unique K (Nat.le_add_right _ _) (rowStart_add_lt K hab hb)
    (h ▸ Nat.le_add_right (rowStart K a') _) (h ▸ rowStart_add_lt K hab' hb')
  subst hlo
  exact ⟨rfl, by rw [← Nat.sub_add_cancel hab, Nat.add_left_cancel h, Nat.sub_add_cancel hab']⟩

theorem rowStart_add_surj (K : Nat) {t : Nat} (ht : t < rowStart K K) :
    ∃ a b, a ≤ b ∧ b < K ∧ rowStart K a + (b - a) = t := by
  obtain ⟨a, _, h1, h2⟩ := rowStart_block_exists K K ht
  rw [rowStart_succ] at h2
  exact ⟨a, a + (t - rowStart K a), Nat.le_add_right _ _, Nat.add_lt_of_lt_sub' (Nat.sub_lt_left_of_lt_add h1 h2),
    by rw [Nat.add_sub_cancel_left, Nat.add_sub_cancel' h1]⟩

theorem triPos_lt (K : Nat) {i j : Nat} (hi : i < K) (hj : j < K) : triPos K i j < rowStart K K :=
  have ⟨h1, h2⟩ := minmax_lt hi hj
  Nat.lt_of_lt_of_le (rowStart_add_lt K h1 h2) (rowStart_mono K (Nat.lt_of_le_of_lt h1 h2))

/-- distinct unordered pairs use distinct draws -/
theorem triPos_injective (K : Nat) {i j i' j' : Nat} (hi : i < K) (hj : j < K) (hi' : i' < K) (hj' : j' < K)
    (h : triPos K i j = triPos K i' j') : min i j = min i' j' ∧ max i j = max i' j' :=
  have ⟨h1, h2⟩ := minmax_lt hi hj
  have ⟨h1', h2'⟩ := minmax_lt hi' hj'
  rowStart_add_inj K h1 h2 h1' h2' h

section
variable {α : Type} [Add α] [Mul α] [MTExtra α]

theorem initAffRandom_general (K L : Nat) (d : Nat → α) : (initAffRandom false K L d).1 =
    Tens.ofFn K K L fun i j a => d (a * rowStart K K + triPos K i j) := rfl

theorem initAffRandom_assort (K L : Nat) (d : Nat → α) : (initAffRandom true K L d).1 =
    Tens.ofFn K 1 L fun i _ a => d (a * K + i) := rfl

theorem initAffFromInitial_general (init : Tens α) (d : Nat → α) : (initAffFromInitial false init d).1 =
    Tens.ofFn init.R init.R init.T fun k q a =>
      init.get k q a + MTExtra.noise * d (a * init.R * init.R + k * init.R + q) := rfl

theorem initAffFromInitial_assort (init : Tens α) (d : Nat → α) : (initAffFromInitial true init d).1 =
    Tens.ofFn init.R 1 init.T fun k _ a => init.get k 0 a + MTExtra.noise * d (a * init.R + k) := rfl

theorem initRows_fst (N K : Nat) (elems : List Nat) (prev : Nat → Nat → α) (d : Nat → α) :
    (initRows N K elems prev d).1 =
      Tens.ofFn N K 1 fun j k _ => if j ∈ elems then d (k * elems.length + elems.idxOf j) else prev j k := rfl

theorem initAffRandom_get_general {K L : Nat} {d : Nat → α} {i j a : Nat} (hi : i < K) (hj : j < K) (ha : a < L) :
    (initAffRandom false K L d).1.get i j a = d (a * rowStart K K + triPos K i j) := by
  rw [initAffRandom_general, get_ofFn _ _ _ _ hi hj ha]

theorem initAffRandom_get_assort {K L : Nat} {d : Nat → α} {i a : Nat} (hi : i < K) (ha : a < L) :
    (initAffRandom true K L d).1.get i 0 a = d (a * K + i) := by
  rw [initAffRandom_assort, get_ofFn _ _ _ _ hi Nat.zero_lt_one ha]

theorem initAffFromInitial_get_general {init : Tens α} {d : Nat → α} {k q a : Nat} (hk : k < init.R)
    (hq : q < init.R) (ha : a < init.T) :
    (initAffFromInitial false init d).1.get k q a =
      init.get k q a + MTExtra.noise * d (a * init.R * init.R + k * init.R + q) := by
  rw [initAffFromInitial_general, get_ofFn _ _ _ _ hk hq ha]

theorem initAffFromInitial_get_assort {init : Tens α} {d : Nat → α} {k a : Nat} (hk : k < init.R) (ha : a < init.T) :
    (initAffFromInitial true init d).1.get k 0 a = init.get k 0 a + MTExtra.noise * d (a * init.R + k) := by
  rw [initAffFromInitial_assort, get_ofFn _ _ _ _ hk Nat.zero_lt_one ha]

theorem initRows_get {N K : Nat} {elems : List Nat} {prev : Nat → Nat → α} {d : Nat → α} {j k : Nat}
    (hj : j < N) (hk : k < K) :
    (initRows N K elems prev d).1.get j k 0 =
      if j ∈ elems then d (k * elems.length + elems.idxOf j) else prev j k := by
  rw [initRows_fst, get_ofFn _ _ _ _ hj hk Nat.zero_lt_one]

theorem initAffRandom_used (assort : Bool) (K L : Nat) (d : Nat → α) :
    (initAffRandom assort K L d).2 = if assort then L * K else L * rowStart K K := by
  cases assort <;> rfl

theorem initAffRandom_congr {assort : Bool} {K L : Nat} {d d' : Nat → α}
    (h : ∀ t, t < (initAffRandom assort K L d).2 → d t = d' t) :
    (initAffRandom assort K L d).1 = (initAffRandom assort K L d').1 := by
  cases assort
  · rw [initAffRandom_general, initAffRandom_general]
    exact ofFn_congr fun i j a hi hj ha => h _ (mul_add_lt ha (triPos_lt K hi hj))
  · rw [initAffRandom_assort, initAffRandom_assort]
    exact ofFn_congr fun i _ a hi _ ha => h _ (mul_add_lt ha hi)

theorem initAffFromInitial_used (assort : Bool) (init : Tens α) (d : Nat → α) :
    (initAffFromInitial assort init d).2 = if assort then init.T * init.R else init.T * init.R * init.R := by
  cases assort <;> rfl

theorem initAffFromInitial_congr {assort : Bool} {init : Tens α} {d d' : Nat → α}
    (h : ∀ t, t < (initAffFromInitial assort init d).2 → d t = d' t) :
    (initAffFromInitial assort init d).1 = (initAffFromInitial assort init d').1 := by
  cases assort
  · rw [initAffFromInitial_general, initAffFromInitial_general]
    refine ofFn_congr fun k q a hk hq ha => ?_
    rw [h _ (show _ < init.T * init.R * init.R by
      rw [Nat.mul_assoc, Nat.mul_assoc, Nat.add_assoc]; exact mul_add_lt ha (mul_add_lt hk hq))]
  · rw [initAffFromInitial_assort, initAffFromInitial_assort]
    refine ofFn_congr fun k _ a hk _ ha => ?_
    rw [h _ (mul_add_lt ha hk)]

theorem initRows_congr {N K : Nat} {elems : List Nat} {prev : Nat → Nat → α} {d d' : Nat → α}
    (h : ∀ t, t < K * elems.length → d t = d' t) :
    (initRows N K elems prev d).1 = (initRows N K elems prev d').1 := by
  rw [initRows_fst, initRows_fst]
  refine ofFn_congr fun j k _ _ hk _ => ?_
  split
  · next hj => exact h _ (mul_add_lt hk (List.idxOf_lt_length_iff.mpr hj))
  · rfl

end

end MTProofs
