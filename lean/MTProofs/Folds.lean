import MT.Solver
import MT.Imp

set_option linter.unusedSectionVars false

namespace MT.CodeRefine
open MT MT.Imp

section
variable {α : Type}

theorem foldl_proj {S T ι : Type} (p : S → T) (f : S → ι → S) (h : T → ι → T)
    (hp : ∀ s i, p (f s i) = h (p s) i) (l : List ι) (s : S) :
    p (l.foldl f s) = l.foldl h (p s) :=
  (List.foldl_hom p fun s i => (hp s i).symm).symm

theorem foldl_rel {S T ι : Type} (R : S → T → Prop) {f : S → ι → S} {g : T → ι → T}
    (h : ∀ s t i, R s t → R (f s i) (g t i)) (l : List ι) {s : S} {t : T} (h0 : R s t) :
    R (l.foldl f s) (l.foldl g t) := by
  induction l generalizing s t with
  | nil => exact h0
  | cons i is ih => exact ih (h s t i h0)

/-- `I` is typically: the parts that are only read keep their values. -/
theorem foldl_proj_inv {S B ι : Type} {I : S → Prop} (acc : S → B) {f : S → ι → S} {g : B → ι → B}
    (s : S) (hs : I s) (h : ∀ s i, I s → I (f s i) ∧ acc (f s i) = g (acc s) i) (l : List ι) :
    I (l.foldl f s) ∧ acc (l.foldl f s) = l.foldl g (acc s) :=
  foldl_rel (fun s b => I s ∧ acc s = b) (fun s _ i hb => hb.2 ▸ h s i hb.1) l ⟨hs, rfl⟩

/-- The invariant is an equation of states, so what the loop leaves alone needs no clause of its own. -/
theorem forRange_eq {S : Type} (body : Nat → S → S) (F : Nat → S) {s : S} (h0 : F 0 = s)
    (hstep : ∀ t, body t (F t) = F (t + 1)) (n : Nat) : (List.range n).foldl (fun s i => body i s) s = F n := by
  induction n with
  | zero => exact h0.symm
  | succ n ih => rw [List.range_succ, List.foldl_append, ih]; exact hstep n

theorem whileFuel_stop {S : Type} (n : Nat) (c : S → Bool) (b : S → S) (s : S) (h : c s = false) :
    whileFuel n c b s = s := by
  cases n <;> simp [whileFuel, h]

theorem foldl_cols {β : Type} (assort : Bool) (K k : Nat) (f : β → Nat → β) (b : β) :
    (cols assort K k).foldl f b = if assort then f b k else (List.range K).foldl f b := by
  cases assort <;> rfl

theorem foldl_gpairs {β : Type} (assort : Bool) (K : Nat) (f : β → Nat × Nat → β) (b : β) :
    (gpairs assort K).foldl f b
      = (List.range K).foldl (fun b k => (cols assort K k).foldl (fun b q => f b (k, q)) b) b := by
  cases assort
  · simp only [gpairs, pairs, cols, Bool.false_eq_true, if_false, List.foldl_flatMap, List.foldl_map]
  · simp only [gpairs, cols, if_true, List.foldl_map, List.foldl_cons, List.foldl_nil]

/-- A loop over `l` that, at step `t`, overwrites the points `x` with `sel x = t` that pass the guard `P t` by `V t x`:
afterwards a point holds `V (sel x) x` if its step came and its guard held, and its first value otherwise. -/
theorem foldl_select_list {X ι : Type} [DecidableEq ι] (l : List ι) (sel : X → ι) (P : ι → X → Prop)
    [∀ t x, Decidable (P t x)] (V : ι → X → α) (m0 : X → α) (x : X) :
    (l.foldl (fun m t => fun x => if sel x = t ∧ P t x then V t x else m x) m0) x
      = if sel x ∈ l ∧ P (sel x) x then V (sel x) x else m0 x := by
  induction l generalizing m0 with
  | nil => simp
  | cons t ts ih =>
    rw [List.foldl_cons, ih]
    by_cases ht : sel x = t
    · subst ht; by_cases hp : P (sel x) x <;> simp [hp]
    · by_cases hm : sel x ∈ ts <;> simp [ht, hm]

/-- A counted loop whose pass `t` writes, in the table `p`, the entries selected by `t`: `foldl_select_list` in the
vocabulary of the translated code. -/
theorem forRange_select {S X : Type} (p : S → X → α) (body : Nat → S → S) {sel : X → Nat} {P : Nat → X → Prop}
    [∀ t x, Decidable (P t x)] {V : Nat → X → α}
    (h : ∀ t s x, p (body t s) x = if sel x = t ∧ P t x then V t x else p s x) (n : Nat) (s : S) (x : X) :
    p (forRange n body s) x = if sel x < n ∧ P (sel x) x then V (sel x) x else p s x := by
  rw [forRange, foldl_proj p (fun s t => body t s) (fun m t x => if sel x = t ∧ P t x then V t x else m x)
    (fun s t => funext (h t s)), foldl_select_list]
  simp only [List.mem_range]

/-- The same under an invariant `I` of what the passes only read. -/
theorem forRange_select_inv {S X : Type} {I : S → Prop} (p : S → X → α) (body : Nat → S → S) {sel : X → Nat}
    {P : Nat → X → Prop} [∀ t x, Decidable (P t x)] {V : Nat → X → α}
    (h : ∀ t s, I s → I (body t s) ∧ ∀ x, p (body t s) x = if sel x = t ∧ P t x then V t x else p s x) (n : Nat)
    (s : S) (hs : I s) (x : X) :
    p (forRange n body s) x = if sel x < n ∧ P (sel x) x then V (sel x) x else p s x := by
  rw [forRange, (foldl_proj_inv p (f := fun s t => body t s)
    (g := fun m t x => if sel x = t ∧ P t x then V t x else m x) s hs
    (fun s t hs => ⟨(h t s hs).1, funext (h t s hs).2⟩) (List.range n)).2, foldl_select_list]
  simp only [List.mem_range]

theorem setAt2_self (f : Nat → Nat → α) (i k : Nat) (x : α) : setAt2 f i k x i k = x := by
  simp [setAt2]

theorem setAt2_setAt2 (f : Nat → Nat → α) (i k : Nat) (x y : α) :
    setAt2 (setAt2 f i k x) i k y = setAt2 f i k y := by
  funext i' k'; by_cases h : i' = i ∧ k' = k <;> simp [setAt2, h]

theorem setAt3_self (f : Nat → Nat → Nat → α) (k q a : Nat) (x : α) : setAt3 f k q a x k q a = x := by
  simp [setAt3]

theorem setAt3_setAt3 (f : Nat → Nat → Nat → α) (k q a : Nat) (x y : α) :
    setAt3 (setAt3 f k q a x) k q a y = setAt3 f k q a y := by
  funext k' q' a'; by_cases h : k' = k ∧ q' = q ∧ a' = a <;> simp [setAt3, h]

/-- a matrix / a tensor as a function of the index pair / triple, the form `foldl_select` speaks of -/
def un2 (f : Nat → Nat → α) : Nat × Nat → α := fun x => f x.1 x.2

def un3 (f : Nat → Nat → Nat → α) : Nat × Nat × Nat → α := fun x => f x.1 x.2.1 x.2.2

theorem un2_setAt2_eq (f : Nat → Nat → α) (k a : Nat) (y : α) (x : Nat × Nat) :
    un2 (setAt2 f k a y) x = if x = (k, a) then y else un2 f x := by
  unfold un2 setAt2
  simp only [Prod.ext_iff]

theorem un3_setAt3_eq (f : Nat → Nat → Nat → α) (k q a : Nat) (y : α) (x : Nat × Nat × Nat) :
    un3 (setAt3 f k q a y) x = if x = (k, q, a) then y else un3 f x := by
  unfold un3 setAt3
  simp only [Prod.ext_iff]

theorem un2_setAt2 (f : Nat → Nat → α) (k a : Nat) (y : α) (x : Nat × Nat) :
    un2 (setAt2 f k a y) x = if x.2 = a ∧ x.1 = k then y else un2 f x := by
  simp only [un2_setAt2_eq, Prod.ext_iff, and_comm]

theorem un3_setAt3 (f : Nat → Nat → Nat → α) (k q a : Nat) (y : α) (x : Nat × Nat × Nat) :
    un3 (setAt3 f k q a y) x = if x.2.2 = a ∧ (x.1 = k ∧ x.2.1 = q) then y else un3 f x := by
  simp only [un3_setAt3_eq, Prod.ext_iff, and_comm, and_assoc]

end

section
variable {α : Type} [Add α] [Sub α] [Mul α] [Div α] [LT α] [DecidableLT α] [MTExtra α]

def accL {ι : Type} (l : List ι) (f : ι → α) (a0 : α) : α := l.foldl (fun a i => a + f i) a0

theorem sumL_eq_accL {ι : Type} (l : List ι) (f : ι → α) : sumL l f = accL l f MTExtra.zero := rfl

theorem foldl_setAt2 (l : List Nat) (c : Nat → Prop) [DecidablePred c] (val : Nat → α) (k : Nat)
    (m0 : Nat → Nat → α) (i' k' : Nat) :
    (l.foldl (fun m i => if c i then setAt2 m i k (val i) else m) m0) i' k'
      = if k' = k ∧ i' ∈ l ∧ c i' then val i' else m0 i' k' := by
  induction l generalizing m0 with
  | nil => simp
  | cons x xs ih =>
    simp only [List.foldl_cons, ih, List.mem_cons]
    by_cases hk : k' = k
    · by_cases hx : i' = x
      · subst hx
        by_cases hc : c i'
        · by_cases hm : i' ∈ xs <;> simp [hk, hc, hm, setAt2]
        · simp [hk, hc]
      · by_cases hc : c x <;> simp [hk, hx, hc, setAt2]
    · by_cases hc : c x <;> simp [hk, hc, setAt2]

theorem foldl_select {X : Type} (n : Nat) (sel : X → Nat) (P : Nat → X → Prop) [∀ t x, Decidable (P t x)]
    (V : Nat → X → α) (m0 : X → α) (x : X) :
    ((List.range n).foldl (fun m t => fun x => if sel x = t ∧ P t x then V t x else m x) m0) x
      = if sel x < n ∧ P (sel x) x then V (sel x) x else m0 x := by
  simp only [foldl_select_list, List.mem_range]

/-- the two-index view of the affinity that the assortative branch reads: `w(k,a)` -/
abbrev diag2 (wf : Nat → Nat → Nat → α) : Nat → Nat → α := fun k a => wf k k a

end
end MT.CodeRefine
