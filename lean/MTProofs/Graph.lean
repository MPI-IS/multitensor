import MT.Solver
import Mathlib.Data.List.Basic
import Mathlib.Data.List.Nodup
import Mathlib.Data.Finset.Card
-- not used below, but kept: without it two statements of MTProps/C08 elaborate with another `Zero ℕ` instance
import Mathlib.Tactic.Linarith

namespace MTProofs
open MT

section interleave
variable {β : Type}

theorem interleave_map {γ : Type} (f : β → γ) (s e : List β) :
    interleave (s.map f) (e.map f) = (interleave s e).map f := by
  unfold interleave
  induction s generalizing e with
  | nil => simp
  | cons a as ih =>
    cases e with
    | nil => simp
    | cons b bs => simp [ih]

theorem mem_interleave_iff {s e : List β} {x : β} :
    x ∈ interleave s e ↔ ∃ p ∈ s.zip e, x = p.1 ∨ x = p.2 := by
  unfold interleave
  simp only [List.mem_flatMap, List.mem_cons, List.not_mem_nil, or_false]

theorem mem_interleave {s e : List β} {x : β} (h : s.length = e.length) :
    x ∈ interleave s e ↔ x ∈ s ∨ x ∈ e := by
  induction s generalizing e with
  | nil => cases e with
    | nil => simp [interleave]
    | cons _ _ => simp at h
  | cons a as ih =>
    cases e with
    | nil => simp at h
    | cons b bs =>
      have := ih (Nat.succ.inj h)
      unfold interleave at this ⊢
      simp only [List.zip_cons_cons, List.flatMap_cons, List.cons_append, List.nil_append, List.mem_cons, this]
      rw [← or_assoc, or_or_or_comm]

theorem zip_take (s e : List β) (n : Nat) : (s.take n).zip (e.take n) = (s.zip e).take n :=
  List.take_zipWith.symm

theorem interleave_take_succ (s e : List β) (n : Nat) (hs : n < s.length) (he : n < e.length) :
    interleave (s.take (n + 1)) (e.take (n + 1)) = interleave (s.take n) (e.take n) ++ [s[n], e[n]] := by
  unfold interleave
  rw [zip_take, zip_take, List.take_add_one, List.flatMap_append]
  simp [hs, he]

end interleave

section firstApp
variable {β : Type} [DecidableEq β]

theorem mem_firstApp {l : List β} {x : β} : x ∈ firstApp l ↔ x ∈ l := by
  induction l with
  | nil => rfl
  | cons y ys ih =>
    simp only [firstApp, List.mem_cons, List.mem_filter, ih, decide_eq_true_eq]
    by_cases hxy : x = y <;> simp [hxy]

theorem firstApp_nodup (l : List β) : (firstApp l).Nodup := by
  induction l with
  | nil => simp [firstApp]
  | cons y ys ih =>
    simp only [firstApp, List.nodup_cons, List.mem_filter, decide_eq_true_eq, not_and, not_not]
    exact ⟨fun _ => trivial, ih.filter _⟩

theorem firstApp_filter_ne (l : List β) (x : β) :
    firstApp (l.filter (· ≠ x)) = (firstApp l).filter (· ≠ x) := by
  induction l with
  | nil => simp [firstApp]
  | cons y ys ih =>
    by_cases hyx : y = x
    · subst hyx
      simp only [ne_eq, not_true_eq_false, decide_false, Bool.false_eq_true, not_false_eq_true,
        List.filter_cons_of_neg, firstApp, ih, List.filter_filter, Bool.and_self]
    · simp only [ne_eq, hyx, not_false_eq_true, decide_true, List.filter_cons_of_pos, firstApp, ih,
        List.filter_filter]
      congr 1
      apply List.filter_congr
      intro z _
      simp only [Bool.and_comm]

theorem firstApp_cons (x : β) (xs : List β) :
    firstApp (x :: xs) = x :: firstApp (xs.filter (· ≠ x)) := by
  rw [firstApp_filter_ne]; rfl

theorem firstApp_append (l m : List β) :
    firstApp (l ++ m) = firstApp l ++ (firstApp m).filter (· ∉ l) := by
  induction l with
  | nil => simp [firstApp]
  | cons x l ih =>
    simp only [List.cons_append, firstApp, ih, List.filter_append, List.filter_filter, List.mem_cons, not_or]
    congr 2
    apply List.filter_congr
    intro y _
    simp

theorem firstApp_prefix (l t : List β) : firstApp l <+: firstApp (l ++ t) := by
  rw [firstApp_append]; exact List.prefix_append _ _

theorem firstApp_append_cons_of_mem {l : List β} {x : β} (hx : x ∈ l) (m : List β) :
    firstApp (l ++ x :: m) = firstApp (l ++ m) := by
  rw [firstApp_append, firstApp_append, firstApp, List.filter_cons, if_neg (by simpa using hx), List.filter_filter]
  congr 1
  apply List.filter_congr
  intro y _
  by_cases hy : y = x <;> simp [hy, hx]

/-- `add_vertex` on the label list. -/
def ins (L : List β) (x : β) : List β := if x ∈ L then L else L ++ [x]

theorem self_mem_ins (L : List β) (x : β) : x ∈ ins L x := by
  unfold ins
  split
  · assumption
  · exact List.mem_append_right _ (List.mem_singleton_self x)

theorem ins_prefix (L : List β) (x : β) : L <+: ins L x := by
  unfold ins
  by_cases h : x ∈ L
  · simp [h]
  · simp only [h, if_false]; exact List.prefix_append L [x]

theorem firstApp_snoc (l : List β) (x : β) : firstApp (l ++ [x]) = ins (firstApp l) x := by
  rw [firstApp_append, ins]
  by_cases h : x ∈ l <;> simp [firstApp, mem_firstApp, h]

theorem firstApp_map {γ : Type} [DecidableEq γ] (f : β → γ) (hf : Function.Injective f) (l : List β) :
    firstApp (l.map f) = (firstApp l).map f := by
  induction l with
  | nil => simp [firstApp]
  | cons y ys ih =>
    simp only [List.map_cons, firstApp, ih, List.filter_map, List.cons.injEq, true_and]
    congr 1
    apply List.filter_congr
    intro z _
    simp only [Function.comp, ne_eq, decide_not, hf.eq_iff]

theorem idxOf_map {γ : Type} [DecidableEq γ] (f : β → γ) (hf : Function.Injective f) (l : List β) (x : β) :
    (l.map f).idxOf (f x) = l.idxOf x := by
  induction l with
  | nil => rfl
  | cons y ys ih =>
    have hb : (f y == f x) = (y == x) := by rw [Bool.eq_iff_iff, beq_iff_eq, beq_iff_eq, hf.eq_iff]
    rw [List.map_cons, List.idxOf_cons, List.idxOf_cons, ih, hb]

theorem firstApp_length (l : List β) : (firstApp l).length = l.toFinset.card := by
  rw [← List.toFinset_card_of_nodup (firstApp_nodup l)]
  congr 1
  ext x
  simp only [List.mem_toFinset, mem_firstApp]

/-- labels get their place when they first appear: later records do not move them -/
theorem firstApp_interleave_take (s e : List β) (n : Nat) :
    firstApp (interleave (s.take n) (e.take n)) <+: firstApp (interleave s e) := by
  unfold interleave
  rw [zip_take]
  conv => rhs; rw [← List.take_append_drop n (s.zip e), List.flatMap_append]
  exact firstApp_prefix _ _

/-- the vertex count used by the validation is the number of vertices the network gets -/
theorem numVertices_eq (s e : List β) (h : s.length = e.length) :
    numVertices s e = (firstApp (interleave s e)).length := by
  unfold numVertices
  rw [firstApp_length, firstApp_length]
  congr 1
  ext x
  simp only [List.mem_toFinset, List.mem_append, mem_interleave h]

end firstApp

/-- what one record contributes to the out-list of vertex `v` in one layer (`m` parallel edges `src → dst`) -/
def pieceOut (directed : Bool) (src dst m v : Nat) : List Nat :=
  (if src = v then List.replicate m dst else []) ++ (if !directed && dst = v then List.replicate m src else [])

theorem out_eq_flatMap {β : Type} (n : Net β) (a i : Nat) :
    n.out a i = n.recs.flatMap fun r => pieceOut n.directed r.src r.dst (Net.unitsAt r a) i := rfl

theorem pieceOut_zero (directed : Bool) (src dst v : Nat) : pieceOut directed src dst 0 v = [] := by
  simp [pieceOut]

/-- `m` units at once, or one unit `m` times: both entries are present only for a self-loop of an undirected
network, where they are the same vertex, so their order does not matter -/
theorem pieceOut_eq_flatten (directed : Bool) (src dst m v : Nat) :
    pieceOut directed src dst m v = (List.replicate m (pieceOut directed src dst 1 v)).flatten := by
  unfold pieceOut
  by_cases h1 : src = v <;> by_cases h2 : (!directed && decide (dst = v)) = true
  · have hd : dst = v := of_decide_eq_true (Bool.and_eq_true _ _ ▸ h2).2
    rw [if_pos h1, if_pos h2, if_pos h1, if_pos h2, h1, hd]
    show _ = (List.replicate m (List.replicate 2 v)).flatten
    rw [List.flatten_replicate_replicate, Nat.mul_two, List.replicate_add]
  · rw [if_pos h1, if_neg h2, if_pos h1, if_neg h2, List.append_nil, List.append_nil,
      List.flatten_replicate_replicate, Nat.mul_one]
  · rw [if_neg h1, if_pos h2, if_neg h1, if_pos h2, List.nil_append, List.nil_append,
      List.flatten_replicate_replicate, Nat.mul_one]
  · rw [if_neg h1, if_neg h2, if_neg h1, if_neg h2, List.append_nil, List.flatten_replicate_nil]

theorem pieceOut_succ (directed : Bool) (src dst m v : Nat) :
    pieceOut directed src dst (m + 1) v = pieceOut directed src dst m v ++ pieceOut directed src dst 1 v := by
  rw [pieceOut_eq_flatten, List.replicate_succ', List.flatten_append, ← pieceOut_eq_flatten, List.flatten_singleton]

theorem pieceOut_swap (src dst m v : Nat) : pieceOut false dst src m v = pieceOut false src dst m v := by
  unfold pieceOut
  by_cases h1 : src = v <;> by_cases h2 : dst = v <;> simp [h1, h2]

/-- boost puts an undirected edge into the out-lists of both ends -/
theorem pieceOut_undirected (src dst m v : Nat) :
    pieceOut false src dst m v = pieceOut true src dst m v ++ pieceOut true dst src m v := by
  simp [pieceOut]

theorem mem_pieceOut {directed : Bool} {src dst m v j : Nat} (h : j ∈ pieceOut directed src dst m v) :
    j = dst ∨ j = src := by
  rcases List.mem_append.mp h with h | h <;> split at h
  · exact Or.inl (List.mem_replicate.mp h).2
  · cases h
  · exact Or.inr (List.mem_replicate.mp h).2
  · cases h

theorem pieceOut_eq_nil {directed : Bool} {src dst m v : Nat} (h : m = 0 ∨ (src ≠ v ∧ dst ≠ v)) :
    pieceOut directed src dst m v = [] := by
  rcases h with rfl | ⟨hs, hd⟩
  · exact pieceOut_zero ..
  · simp [pieceOut, hs, hd]

/-- edges contributed by one record to the out-list of `i` towards `j` in layer `a` -/
def recMult (directed : Bool) (r : IRec) (a i j : Nat) : Nat :=
  (if r.src = i ∧ r.dst = j then Net.unitsAt r a else 0) +
  (if !directed ∧ r.dst = i ∧ r.src = j then Net.unitsAt r a else 0)

theorem count_ite_replicate (c : Prop) [Decidable c] (n x j : Nat) :
    (if c then List.replicate n x else []).count j = if c ∧ x = j then n else 0 := by
  by_cases h : c
  · simp only [h, ↓reduceIte, true_and, List.count_replicate, beq_iff_eq]
  · simp [h]

theorem count_pieceOut (directed : Bool) (src dst m v j : Nat) :
    (pieceOut directed src dst m v).count j =
      (if src = v ∧ dst = j then m else 0) + (if !directed ∧ dst = v ∧ src = j then m else 0) := by
  unfold pieceOut
  rw [List.count_append, count_ite_replicate, count_ite_replicate]
  simp only [Bool.and_eq_true, decide_eq_true_eq, and_assoc]

theorem out_count {β : Type} (n : Net β) (a i j : Nat) :
    (n.out a i).count j = (n.recs.map fun r => recMult n.directed r a i j).sum := by
  rw [out_eq_flatMap, List.count_flatMap]
  congr 1
  exact List.map_congr_left fun r _ => count_pieceOut ..

/-- the in-list of `j`: what the reversed records put into its out-list in a directed network -/
theorem inn_eq_flatMap {β : Type} (n : Net β) (a j : Nat) :
    n.inn a j = n.recs.flatMap fun r => pieceOut true r.dst r.src (Net.unitsAt r a) j :=
  List.flatMap_congr fun _ _ => (List.append_nil _).symm

theorem inn_count {β : Type} (n : Net β) (a i j : Nat) :
    (n.inn a j).count i = (n.recs.map fun r =>
      if r.src = i ∧ r.dst = j then Net.unitsAt r a else 0).sum := by
  rw [inn_eq_flatMap, List.count_flatMap]
  congr 1
  exact List.map_congr_left fun r _ => by
    rw [Function.comp, count_pieceOut]
    simp [and_comm]

theorem inn_count_eq_out_count {β : Type} (n : Net β) (hd : n.directed = true) (a i j : Nat) :
    (n.inn a j).count i = (n.out a i).count j := by
  rw [inn_count, out_count]
  congr 1
  apply List.map_congr_left
  intro r _
  simp [recMult, hd]

theorem out_count_symm {β : Type} (n : Net β) (hd : n.directed = false) (a i j : Nat) :
    (n.out a i).count j = (n.out a j).count i := by
  rw [out_count, out_count]
  congr 1
  apply List.map_congr_left
  intro r _
  simp only [recMult, hd, Bool.not_false, true_and]
  rw [Nat.add_comm]
  simp only [and_comm]

def swapRec (r : IRec) : IRec := { r with src := r.dst, dst := r.src }

theorem out_swap_invariant {β : Type} (n : Net β) (hd : n.directed = false) (S : IRec → Bool) (a i : Nat) :
    ({ n with recs := n.recs.map fun r => if S r then swapRec r else r } : Net β).out a i = n.out a i := by
  rw [out_eq_flatMap, out_eq_flatMap, List.flatMap_map]
  refine List.flatMap_congr fun r _ => ?_
  simp only [hd]
  split
  · exact pieceOut_swap r.src r.dst _ i
  · rfl

theorem flatMap_eq_of_forall₂ {ι κ τ : Type} {R : ι → κ → Prop} {l : List ι} {l' : List κ}
    (h : List.Forall₂ R l l') (f : ι → List τ) (g : κ → List τ) (hfg : ∀ x y, R x y → f x = g y) :
    l.flatMap f = l'.flatMap g := by
  induction h with
  | nil => rfl
  | cons hxy _ ih => simp only [List.flatMap_cons, hfg _ _ hxy, ih]

theorem forall₂_zipIdx {ι κ : Type} {R : ι → κ → Prop} {l : List ι} {l' : List κ}
    (h : List.Forall₂ R l l') (k : Nat) :
    List.Forall₂ (fun p q => R p.1 q.1 ∧ p.2 = q.2) (l.zipIdx k) (l'.zipIdx k) := by
  induction h generalizing k with
  | nil => exact List.Forall₂.nil
  | cons hxy _ ih =>
    simp only [List.zipIdx_cons]
    exact List.Forall₂.cons ⟨hxy, rfl⟩ (ih (k + 1))

theorem out_lt_of_recs {β : Type} {n : Net β} {N : Nat} (h : ∀ r ∈ n.recs, r.src < N ∧ r.dst < N) (a i : Nat) :
    ∀ j ∈ n.out a i, j < N := by
  intro j hj
  obtain ⟨r, hr, hj⟩ := List.mem_flatMap.mp (out_eq_flatMap n a i ▸ hj)
  rcases mem_pieceOut hj with rfl | rfl
  · exact (h r hr).2
  · exact (h r hr).1

theorem inn_lt_of_recs {β : Type} {n : Net β} {N : Nat} (h : ∀ r ∈ n.recs, r.src < N ∧ r.dst < N) (a j : Nat) :
    ∀ i ∈ n.inn a j, i < N := by
  intro i hi
  obtain ⟨r, hr, hi⟩ := List.mem_flatMap.mp (inn_eq_flatMap n a j ▸ hi)
  rcases mem_pieceOut hi with rfl | rfl
  · exact (h r hr).1
  · exact (h r hr).2

theorem out_eq_nil {β : Type} (n : Net β) (a i : Nat)
    (h : ∀ r ∈ n.recs, Net.unitsAt r a = 0 ∨ (r.src ≠ i ∧ r.dst ≠ i)) : n.out a i = [] := by
  rw [out_eq_flatMap, List.flatMap_eq_nil_iff]
  exact fun r hr => pieceOut_eq_nil (h r hr)

theorem inn_eq_nil {β : Type} (n : Net β) (a j : Nat)
    (h : ∀ r ∈ n.recs, Net.unitsAt r a = 0 ∨ (r.src ≠ j ∧ r.dst ≠ j)) : n.inn a j = [] := by
  rw [inn_eq_flatMap, List.flatMap_eq_nil_iff]
  exact fun r hr => pieceOut_eq_nil ((h r hr).imp_right And.symm)

section
variable {β : Type} (n : Net β)

theorem nV_le : n.nV ≤ n.labels.length := by unfold Net.nV; split <;> omega

theorem nV_eq_of_layer {n : Net β} {a : Nat} (ha : a < n.nL) : n.nV = n.labels.length :=
  if_neg (Nat.ne_of_gt (Nat.zero_lt_of_lt ha))

theorem uList_sublist : n.uList.Sublist (List.range n.nV) := List.filter_sublist

theorem vList_sublist : n.vList.Sublist (List.range n.nV) := by
  unfold Net.vList; split
  · exact List.filter_sublist
  · exact uList_sublist n

theorem listed_lt : (∀ i ∈ n.uList, i < n.nV) ∧ (∀ j ∈ n.vList, j < n.nV) :=
  ⟨fun _ h => List.mem_range.mp ((uList_sublist n).subset h), fun _ h => List.mem_range.mp ((vList_sublist n).subset h)⟩

theorem listed_nodup : n.uList.Nodup ∧ n.vList.Nodup :=
  ⟨(uList_sublist n).nodup List.nodup_range, (vList_sublist n).nodup List.nodup_range⟩

theorem vList_of_undirected (hd : n.directed = false) : n.vList = n.uList :=
  if_neg (by simp [hd])

end

theorem getD_tabulate {γ : Type} (f : Nat → γ) (n i : Nat) (d : γ) :
    ((List.range n).map f).toArray.getD i d = if i < n then f i else d := by
  rw [Array.getD_eq_getD_getElem?, List.getElem?_toArray, List.getElem?_map]
  split
  · next h => rw [List.getElem?_range h]; rfl
  · next h => rw [List.getElem?_eq_none (by simpa using h)]; rfl

theorem view_out {β : Type} (n : Net β) (a i : Nat) :
    n.view.out a i = if a < n.nL ∧ i < n.nV then n.out a i else [] := by
  unfold Net.view
  dsimp only
  rw [getD_tabulate, apply_ite (Array.getD · i []), getD_tabulate, ite_and]
  rfl

theorem view_inn {β : Type} (n : Net β) (a j : Nat) :
    n.view.inn a j = if n.directed = true ∧ a < n.nL ∧ j < n.nV then n.inn a j else [] := by
  unfold Net.view
  dsimp only
  rw [apply_ite (Array.getD · a #[]), getD_tabulate, apply_ite (Array.getD · j []), apply_ite (Array.getD · j []),
    getD_tabulate, ite_and, ite_and]
  rfl

theorem view_eq_mk {β : Type} (n : Net β) : n.view = ⟨n.directed, n.nL, n.view.out, n.view.inn, n.uList, n.vList⟩ := by
  rw [Net.view]

theorem view_inn_undirected {β : Type} (n : Net β) (hd : n.directed = false) : n.view.inn = fun _ _ => [] := by
  funext a j
  rw [view_inn, hd]
  rfl

theorem view_out_lt {β : Type} {n : Net β} {N : Nat} (h : ∀ r ∈ n.recs, r.src < N ∧ r.dst < N) (a i : Nat) :
    ∀ j ∈ n.view.out a i, j < N := by
  rw [view_out]
  split
  · exact out_lt_of_recs h a i
  · intro j hj; simp at hj

theorem view_inn_lt {β : Type} {n : Net β} {N : Nat} (h : ∀ r ∈ n.recs, r.src < N ∧ r.dst < N) (a i : Nat) :
    ∀ j ∈ n.view.inn a i, j < N := by
  rw [view_inn]
  split
  · exact inn_lt_of_recs h a i
  · intro j hj; simp at hj

theorem getD_eq_zero {l : List Nat} {a : Nat} (h : l.length ≤ a) : l.getD a 0 = 0 := by
  rw [List.getD_eq_getElem?_getD, List.getElem?_eq_none h]; rfl

theorem rec_outside_table {β : Type} (n : Net β) {r : IRec} (hr : r.src < n.labels.length ∧ r.dst < n.labels.length)
    (hu : r.un.length ≤ n.nL) {a i : Nat} (h : ¬ (a < n.nL ∧ i < n.nV)) :
    Net.unitsAt r a = 0 ∨ (r.src ≠ i ∧ r.dst ≠ i) := by
  by_cases ha : a < n.nL
  · right
    have := nV_eq_of_layer ha
    omega
  · exact Or.inl (getD_eq_zero (hu.trans (Nat.not_lt.mp ha)))

section
variable {β : Type} {n : Net β}
  (hr : ∀ r ∈ n.recs, r.src < n.labels.length ∧ r.dst < n.labels.length) (hu : ∀ r ∈ n.recs, r.un.length ≤ n.nL)
include hr hu

theorem view_out_eq : n.view.out = n.out := by
  funext a i
  rw [view_out]
  split
  · rfl
  · next hc => exact (out_eq_nil n a i fun r h => rec_outside_table n (hr r h) (hu r h) hc).symm

/-- Undirected, the view has no in-lists (`view_inn_undirected`) and the code never asks for them. -/
theorem view_inn_eq (hd : n.directed = true) : n.view.inn = n.inn := by
  funext a j
  rw [view_inn]
  split
  · rfl
  · next hc =>
    exact (inn_eq_nil n a j fun r h => rec_outside_table n (hr r h) (hu r h) fun hc' => hc ⟨hd, hc'⟩).symm

end

theorem view_congr {β γ : Type} {n : Net β} {m : Net γ} (hd : n.directed = m.directed) (hL : n.nL = m.nL)
    (hV : n.nV = m.nV) (ho : n.out = m.out) (hi : n.directed = true → n.inn = m.inn) : n.view = m.view := by
  have hu : n.uList = m.uList := by unfold Net.uList; rw [hV, hL, ho]
  have hv : n.vList = m.vList := by
    unfold Net.vList
    rw [← hd, hu]
    split
    · next h => rw [hV, hL, hi h]
    · rfl
  unfold Net.view
  rw [← hd]
  cases h : n.directed
  · simp only [hL, hV, ho, hu, hv, Bool.false_eq_true, if_false]
  · simp only [hL, hV, ho, hi h, hu, hv]

section build
variable {β ω : Type} [DecidableEq β] [Weight ω]

theorem chunkUnits_length_le (weights : List ω) (nL i : Nat) : (chunkUnits weights nL i).length ≤ nL := by
  simp only [chunkUnits, List.length_map, List.length_take]
  exact Nat.min_le_left _ _

theorem build_recs_lt (directed : Bool) (starts ends : List β) (weights : List ω) :
    ∀ r ∈ (build directed starts ends weights).recs,
      r.src < (build directed starts ends weights).labels.length ∧
      r.dst < (build directed starts ends weights).labels.length := by
  intro r hr
  simp only [build, List.mem_map] at hr
  obtain ⟨p, hp, rfl⟩ := hr
  have hp' : p.1 ∈ starts.zip ends := by
    have := List.mem_zipIdx hp
    exact (List.mem_iff_getElem.mpr ⟨p.2, by omega, by simpa using this.2.2.symm⟩)
  simp only [build]
  exact ⟨List.idxOf_lt_length_iff.mpr (mem_firstApp.mpr (mem_interleave_iff.mpr ⟨_, hp', Or.inl rfl⟩)),
    List.idxOf_lt_length_iff.mpr (mem_firstApp.mpr (mem_interleave_iff.mpr ⟨_, hp', Or.inr rfl⟩))⟩

theorem build_recs_un_le (directed : Bool) (starts ends : List β) (weights : List ω) :
    ∀ r ∈ (build directed starts ends weights).recs, r.un.length ≤ (build directed starts ends weights).nL := by
  intro r hr
  obtain ⟨p, -, rfl⟩ := List.mem_map.1 hr
  exact chunkUnits_length_le ..

theorem build_recs_length (directed : Bool) (starts ends : List β) (weights : List ω)
    (hlen : starts.length = ends.length) : (build directed starts ends weights).recs.length = starts.length := by
  simp [build, List.length_zip, hlen]

theorem build_recs_getElem? (directed : Bool) (starts ends : List β) (weights : List ω) (n : Nat)
    (hs : n < starts.length) (he : n < ends.length) :
    let net := build directed starts ends weights
    net.recs[n]? = some ⟨net.labels.idxOf starts[n], net.labels.idxOf ends[n], chunkUnits weights net.nL n⟩ := by
  simp [build, hs, he]

theorem build_view_out (directed : Bool) (starts ends : List β) (weights : List ω) :
    (build directed starts ends weights).view.out = (build directed starts ends weights).out :=
  view_out_eq (build_recs_lt directed starts ends weights) (build_recs_un_le directed starts ends weights)

theorem build_view_inn (starts ends : List β) (weights : List ω) :
    (build true starts ends weights).view.inn = (build true starts ends weights).inn :=
  view_inn_eq (build_recs_lt true starts ends weights) (build_recs_un_le true starts ends weights) rfl

/-- one pass of the constructor's loop: `add_vertex` for both endpoints, then the record with the indices returned -/
def addRecord (N : Net β) (x y : β) (un : List Nat) : Net β :=
  { N with labels := ins (ins N.labels x) y,
           recs := N.recs ++ [⟨(ins N.labels x).idxOf x, (ins (ins N.labels x) y).idxOf y, un⟩] }

theorem out_addRecord (N : Net β) (x y : β) (un : List Nat) (a v : Nat) :
    (addRecord N x y un).out a v = N.out a v ++
      pieceOut N.directed ((ins N.labels x).idxOf x) ((ins (ins N.labels x) y).idxOf y) (un.getD a 0) v := by
  rw [out_eq_flatMap, out_eq_flatMap, addRecord, List.flatMap_append, List.flatMap_singleton]
  rfl

theorem nedges_addRecord (N : Net β) (x y : β) (un : List Nat) :
    (addRecord N x y un).nedges = N.nedges + ((List.range N.nL).map fun a => un.getD a 0).sum := by
  simp only [Net.nedges, addRecord, List.map_append, List.sum_append, List.map_cons, List.map_nil, List.sum_cons,
    List.sum_nil, Nat.add_zero]
  rfl

/-- the first `n` records of `build …`: layers and vertex indices of the whole, labels as far as they have appeared -/
def buildPrefix (directed : Bool) (starts ends : List β) (weights : List ω) (n : Nat) : Net β :=
  { build directed starts ends weights with
    labels := firstApp (interleave (starts.take n) (ends.take n)),
    recs := (build directed starts ends weights).recs.take n }

theorem buildPrefix_length (directed : Bool) (starts ends : List β) (weights : List ω)
    (hlen : starts.length = ends.length) :
    buildPrefix directed starts ends weights starts.length = build directed starts ends weights := by
  unfold buildPrefix
  rw [List.take_length, hlen, List.take_length, ← hlen, ← build_recs_length directed starts ends weights hlen,
    List.take_length]
  rfl

theorem buildPrefix_succ (directed : Bool) (starts ends : List β) (weights : List ω) (n : Nat)
    (hs : n < starts.length) (he : n < ends.length) :
    buildPrefix directed starts ends weights (n + 1) =
      addRecord (buildPrefix directed starts ends weights n) starts[n] ends[n]
        (chunkUnits weights (build directed starts ends weights).nL n) := by
  have hL : firstApp (interleave (starts.take (n + 1)) (ends.take (n + 1))) =
      ins (ins (firstApp (interleave (starts.take n) (ends.take n))) starts[n]) ends[n] := by
    rw [interleave_take_succ starts ends n hs he, List.append_cons, firstApp_snoc, firstApp_snoc]
  -- what `add_vertex` returned is the index in the final label list
  have hpre := firstApp_interleave_take starts ends (n + 1)
  rw [hL] at hpre
  unfold buildPrefix addRecord
  rw [hL, List.take_add_one, build_recs_getElem? directed starts ends weights n hs he, Option.toList_some]
  dsimp only
  rw [((ins_prefix _ _).trans hpre).idxOf_eq_of_mem (self_mem_ins _ _), hpre.idxOf_eq_of_mem (self_mem_ins _ _)]
  rfl

end build

end MTProofs
