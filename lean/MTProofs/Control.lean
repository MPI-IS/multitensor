/-
Control automaton of the solver loop: the stopping rule as a function of the sequence of pass flags, then
(any scalar type) the flags and likelihood evaluations of a run of `loopStep`.
-/
import MT.Main
import Mathlib.Logic.Function.Iterate
import Mathlib.Tactic.Linarith

namespace MTProofs
open MT

/-- `ctlStep` on Booleans: `pass` is the outcome of the evaluation made in this sweep. -/
def ctlB (maxIt nConv it co : Nat) (pass : Bool) : Nat × Nat × Reason :=
  let co' := if it % 10 = 0 then (if pass then co + 1 else 0) else co
  (it + 1, co',
    if co' = nConv then Reason.converged
    else if it + 1 = maxIt then Reason.maxIter else Reason.noTermination)

/-- `o m`: outcome of the `m`-th evaluation. -/
def runB (maxIt nConv : Nat) (o : Nat → Bool) : Nat → Nat → Nat → Nat × Reason
  | 0, it, _ => (it, Reason.noTermination)
  | fuel + 1, it, co =>
    let r := ctlB maxIt nConv it co (o (it / 10))
    if r.2.2 = Reason.noTermination then runB maxIt nConv o fuel r.1 r.2.1 else (r.1, r.2.2)

/-- length of the run of consecutive passes ending with evaluation `n-1` -/
def streak (o : Nat → Bool) : Nat → Nat
  | 0 => 0
  | n + 1 => if o n then streak o n + 1 else 0

theorem streak_le (o : Nat → Bool) (n : Nat) : streak o n ≤ n := by
  induction n with
  | zero => simp [streak]
  | succ n ih => unfold streak; split <;> omega

theorem succ_le_streak_succ (o : Nat → Bool) (n k : Nat) :
    k + 1 ≤ streak o (n + 1) ↔ o n = true ∧ k ≤ streak o n := by
  show k + 1 ≤ (if o n then streak o n + 1 else 0) ↔ _
  split <;> simp [*]

theorem le_streak_iff (o : Nat → Bool) (n k : Nat) :
    k ≤ streak o n ↔ k ≤ n ∧ ∀ t, t < k → o (n - 1 - t) = true := by
  induction k generalizing n with
  | zero => simp
  | succ k ih =>
    cases n with
    | zero => simp [streak]
    | succ n =>
      rw [succ_le_streak_succ, ih, Nat.forall_lt_succ_left, Nat.add_le_add_iff_right]
      simp only [Nat.add_sub_cancel, Nat.sub_zero, Nat.sub_sub, Nat.add_comm 1]
      exact and_left_comm

theorem streak_succ_le (o : Nat → Bool) (n : Nat) : streak o (n + 1) ≤ streak o n + 1 := by
  show (if o n then streak o n + 1 else 0) ≤ _
  split <;> omega

/-- the counter after `n` sweeps: evaluations are made in sweeps `0, 10, 20, …`, so `(n+9)/10` of them
have been made -/
def coincideAt (o : Nat → Bool) (n : Nat) : Nat := streak o ((n + 9) / 10)

def reasonAt (maxIt nConv : Nat) (o : Nat → Bool) (n : Nat) : Reason :=
  if coincideAt o n = nConv then Reason.converged else if n = maxIt then Reason.maxIter else Reason.noTermination

/-- after `n ≥ 1` sweeps the last evaluation made is number `(n-1)/10` -/
theorem evals_pos {n : Nat} (h : 1 ≤ n) : (n + 9) / 10 = (n - 1) / 10 + 1 := by
  obtain ⟨k, rfl⟩ := Nat.exists_eq_add_of_le' h
  exact Nat.add_div_right k (Nat.succ_pos 9)

theorem evals_of_eval {it : Nat} (h : it % 10 = 0) : (it + 9) / 10 = it / 10 := by omega

theorem evals_succ (it : Nat) :
    (it + 1 + 9) / 10 = if it % 10 = 0 then it / 10 + 1 else (it + 9) / 10 := by
  rw [evals_pos (Nat.le_add_left 1 it), Nat.add_sub_cancel]
  split
  · rfl
  · omega

theorem ctlB_coincideAt (maxIt nConv : Nat) (o : Nat → Bool) (it : Nat) :
    ctlB maxIt nConv it (coincideAt o it) (o (it / 10)) = (it + 1, coincideAt o (it + 1), reasonAt maxIt nConv o (it + 1)) := by
  have h : (if it % 10 = 0 then (if o (it / 10) then coincideAt o it + 1 else 0) else coincideAt o it) = coincideAt o (it + 1) := by
    unfold coincideAt
    rw [evals_succ]
    split
    · next h => rw [evals_of_eval h]; rfl
    · rfl
  unfold ctlB reasonAt
  rw [h]

theorem reasonAt_of_lt {maxIt nConv : Nat} {o : Nat → Bool} {k : Nat} (h1 : coincideAt o k < nConv) (h2 : k < maxIt) :
    reasonAt maxIt nConv o k = Reason.noTermination := by
  unfold reasonAt; rw [if_neg (Nat.ne_of_lt h1), if_neg (Nat.ne_of_lt h2)]

theorem reasonAt_maxIt_ne (maxIt nConv : Nat) (o : Nat → Bool) :
    reasonAt maxIt nConv o maxIt ≠ Reason.noTermination := by
  unfold reasonAt; rw [if_pos rfl]; split <;> decide

/-- Started on the streak counter, the automaton stops at the first sweep count that has a reason. -/
theorem runB_eq {maxIt nConv : Nat} (o : Nat → Bool) {n : Nat} (hn : reasonAt maxIt nConv o n ≠ Reason.noTermination) :
    ∀ fuel it, it < n → n ≤ fuel + it → (∀ k, it < k → k < n → reasonAt maxIt nConv o k = Reason.noTermination) →
      runB maxIt nConv o fuel it (coincideAt o it) = (n, reasonAt maxIt nConv o n) := by
  intro fuel
  induction fuel with
  | zero => intro it h1 h2; omega
  | succ fuel ih =>
    intro it h1 h2 hk
    unfold runB
    rw [ctlB_coincideAt]
    rcases Nat.lt_or_eq_of_le (Nat.succ_le_of_lt h1) with hlt | heq
    · rw [if_pos (hk _ (Nat.lt_succ_self it) hlt)]
      exact ih _ hlt (by omega) fun k h => hk k (by omega)
    · subst heq
      rw [if_neg hn]

theorem coincideAt_lt {nConv B : Nat} (o : Nat → Bool) (h : ∀ m, 10 * m + 1 ≤ B → streak o (m + 1) < nConv)
    {k : Nat} (h1 : 0 < k) (h2 : k ≤ B) : coincideAt o k < nConv := by
  have := h ((k - 1) / 10) (by omega)
  rwa [← evals_pos h1] at this

/-- CONVERGED: `m` is the first evaluation completing `nConv` consecutive passes, and it happens within the budget. -/
theorem runB_converged {maxIt nConv : Nat} (o : Nat → Bool) (hC : 1 ≤ nConv) (m : Nat)
    (hm : nConv ≤ streak o (m + 1)) (hmin : ∀ m', m' < m → streak o (m' + 1) < nConv)
    (hle : 10 * m + 1 ≤ maxIt) :
    runB maxIt nConv o maxIt 0 0 = (10 * m + 1, Reason.converged) := by
  have hcnt : coincideAt o (10 * m + 1) = nConv := by
    have h1 : streak o m < nConv := by
      rcases m with _ | m
      · exact hC
      · exact hmin m (Nat.lt_succ_self m)
    have := streak_succ_le o m
    unfold coincideAt
    rw [show (10 * m + 1 + 9) / 10 = m + 1 by omega]
    omega
  have hr : reasonAt maxIt nConv o (10 * m + 1) = Reason.converged := if_pos hcnt
  rw [← hr]
  exact runB_eq o (by rw [hr]; decide) maxIt 0 (Nat.succ_pos _) hle fun k h1 h2 =>
    reasonAt_of_lt (coincideAt_lt (B := 10 * m) o (fun m' h => hmin m' (by omega)) h1 (Nat.le_of_lt_succ h2))
      (by omega)

/-- MAX_ITER: no evaluation within the budget completes `nConv` consecutive passes. -/
theorem runB_maxiter {maxIt nConv : Nat} (o : Nat → Bool) (hM : 1 ≤ maxIt)
    (hnone : ∀ m, 10 * m + 1 ≤ maxIt → streak o (m + 1) < nConv) :
    runB maxIt nConv o maxIt 0 0 = (maxIt, Reason.maxIter) := by
  have hr : reasonAt maxIt nConv o maxIt = Reason.maxIter := by
    unfold reasonAt; rw [if_neg (Nat.ne_of_lt (coincideAt_lt o hnone hM (Nat.le_refl _))), if_pos rfl]
  rw [← hr]
  exact runB_eq o (by rw [hr]; decide) maxIt 0 hM (Nat.le_refl _) fun k h1 h2 =>
    reasonAt_of_lt (coincideAt_lt o hnone h1 (Nat.le_of_lt h2)) h2

/-- The automaton stops within the budget: `maxIt` itself has a reason. -/
theorem runB_stops {maxIt nConv : Nat} (o : Nat → Bool) (hM : 1 ≤ maxIt) :
    ∃ n, 1 ≤ n ∧ n ≤ maxIt ∧ reasonAt maxIt nConv o n ≠ Reason.noTermination ∧
      runB maxIt nConv o maxIt 0 0 = (n, reasonAt maxIt nConv o n) := by
  classical
  have hex : ∃ n, 1 ≤ n ∧ reasonAt maxIt nConv o n ≠ Reason.noTermination :=
    ⟨maxIt, hM, reasonAt_maxIt_ne maxIt nConv o⟩
  have hle : Nat.find hex ≤ maxIt := Nat.find_min' hex ⟨hM, reasonAt_maxIt_ne maxIt nConv o⟩
  refine ⟨Nat.find hex, (Nat.find_spec hex).1, hle, (Nat.find_spec hex).2, ?_⟩
  refine runB_eq o (Nat.find_spec hex).2 maxIt 0 (Nat.find_spec hex).1 hle fun k h1 h2 => ?_
  exact Classical.not_not.mp fun h => Nat.find_min hex h2 ⟨h1, h⟩

section scalar
variable {α : Type} [Add α] [Sub α] [Mul α] [Div α] [LT α] [DecidableLT α] [MTExtra α]
variable (assort : Bool) (K : Nat) (nv : NetView) (maxIt nConv : Nat)
  (evalL : Nat → State α → α) (s0 : State α)

def traj (n : Nat) : State α := (sweep assort K nv)^[n] s0

/-- `Lseq (m+1)`: the `m`-th evaluation, made in the sweep with index `10m` on the state after that sweep. -/
def Lseq : Nat → α
  | 0 => MTExtra.lowest
  | m + 1 => evalL (10 * m) (traj assort K nv s0 (10 * m + 1))

def passSeq (m : Nat) : Bool :=
  passes (Lseq assort K nv evalL s0 m) (Lseq assort K nv evalL s0 (m + 1))

theorem Lseq_evals {n : Nat} (h : 1 ≤ n) :
    Lseq assort K nv evalL s0 ((n + 9) / 10) =
      evalL (10 * ((n - 1) / 10)) (traj assort K nv s0 (10 * ((n - 1) / 10) + 1)) := by
  rw [evals_pos h]; rfl

theorem traj_succ (n : Nat) : traj assort K nv s0 (n + 1) = sweep assort K nv (traj assort K nv s0 n) := by
  unfold traj; exact Function.iterate_succ_apply' _ _ _

/-- `hL`: `L2` holds the value of the last evaluation made. -/
theorem loopStep_eq_ctlB (c : Ctl α) (hL : c.L2 = Lseq assort K nv evalL s0 ((c.iteration + 9) / 10)) :
    loopStep assort K nv maxIt nConv evalL (traj assort K nv s0 c.iteration) c =
      (traj assort K nv s0 (c.iteration + 1),
        ⟨c.iteration + 1, (ctlB maxIt nConv c.iteration c.coincide (passSeq assort K nv evalL s0 (c.iteration / 10))).2.1,
          Lseq assort K nv evalL s0 ((c.iteration + 1 + 9) / 10)⟩,
        (ctlB maxIt nConv c.iteration c.coincide (passSeq assort K nv evalL s0 (c.iteration / 10))).2.2) := by
  unfold loopStep ctlStep ctlB
  rw [← traj_succ]
  by_cases hev : c.iteration % 10 = 0
  · have e : c.iteration = 10 * (c.iteration / 10) := by omega
    have hl : evalL c.iteration (traj assort K nv s0 (c.iteration + 1))
        = Lseq assort K nv evalL s0 (c.iteration / 10 + 1) := by
      conv_lhs => rw [e]
      rfl
    have hp : passes c.L2 (Lseq assort K nv evalL s0 (c.iteration / 10 + 1))
        = passSeq assort K nv evalL s0 (c.iteration / 10) := by
      unfold passSeq; rw [hL, evals_of_eval hev]
    simp only [evals_succ, if_pos hev, hl, hp]
  · simp only [evals_succ, if_neg hev, hL]

theorem runLoop_eq_runB :
    ∀ (fuel : Nat) (s : State α) (c : Ctl α),
      s = traj assort K nv s0 c.iteration →
      c.L2 = Lseq assort K nv evalL s0 ((c.iteration + 9) / 10) →
      let r := runLoop assort K nv maxIt nConv evalL fuel s c
      let b := runB maxIt nConv (passSeq assort K nv evalL s0) fuel c.iteration c.coincide
      r.2.1.iteration = b.1 ∧ r.2.2 = b.2 ∧ r.1 = traj assort K nv s0 b.1 ∧
        r.2.1.L2 = Lseq assort K nv evalL s0 ((b.1 + 9) / 10) := by
  intro fuel
  induction fuel with
  | zero => intro s c hs hL; exact ⟨rfl, rfl, hs, hL⟩
  | succ fuel ih =>
    intro s c hs hL
    subst hs
    unfold runLoop runB
    rw [loopStep_eq_ctlB assort K nv maxIt nConv evalL s0 c hL]
    dsimp only
    split
    · exact ih _ _ rfl rfl
    · exact ⟨rfl, rfl, rfl, rfl⟩

/-- A realization is the automaton driven by its own evaluation outcomes. -/
theorem runLoop_start :
    let r := runLoop assort K nv maxIt nConv evalL maxIt s0 ctlInit
    let b := runB maxIt nConv (passSeq assort K nv evalL s0) maxIt 0 0
    r.2.1.iteration = b.1 ∧ r.2.2 = b.2 ∧ r.1 = traj assort K nv s0 r.2.1.iteration ∧
      r.2.1.L2 = Lseq assort K nv evalL s0 ((r.2.1.iteration + 9) / 10) := by
  obtain ⟨h1, h2, h3, h4⟩ :=
    runLoop_eq_runB assort K nv maxIt nConv evalL s0 maxIt s0 ctlInit rfl (by simp [ctlInit, Lseq])
  exact ⟨h1, h2, h1 ▸ h3, h1 ▸ h4⟩

end scalar

end MTProofs
