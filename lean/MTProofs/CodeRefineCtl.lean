import MT.Solver
import MT.Generated.SolverCode

set_option linter.unusedSectionVars false

namespace MT.CodeRefine
open MT MT.Gen

section
variable {α : Type} [Add α] [Sub α] [Mul α] [Div α] [LT α] [DecidableLT α] [MTExtra α]

/-- `loopControlCode` is `Solver::loop` after the update calls, translated from solver.hpp on every run. The
local `L2_old` and the return slot may hold anything on entry (`junk`, `r0`). -/
theorem loopControlCode_refines (lNew : α) (nConv maxIt : Nat) (c : Ctl α) (junk : α) (r0 : Nat) :
    let s := loopControlCode lNew nConv maxIt ⟨c.iteration, c.coincide, c.L2, junk, r0⟩
    let m := ctlStep maxIt nConv c lNew
    s.iteration = m.1.iteration ∧ s.coincide = m.1.coincide ∧ s.L2 = m.1.L2 ∧ s.ret = m.2.code := by
  unfold loopControlCode ctlStep passes
  by_cases hev : c.iteration % 10 = 0
  · by_cases hp : MTExtra.abs (c.L2 - lNew) / MTExtra.abs c.L2 < MTExtra.epsLik
    · by_cases h1 : c.coincide + 1 = nConv
      · simp [hev, hp, h1, Reason.code]
      · by_cases h2 : c.iteration + 1 = maxIt <;> simp [hev, hp, h1, h2, Reason.code]
    · by_cases h1 : 0 = nConv
      · simp [hev, hp, h1, Reason.code]
      · by_cases h2 : c.iteration + 1 = maxIt <;> simp [hev, hp, h1, h2, Reason.code]
  · by_cases h1 : c.coincide = nConv
    · simp [hev, h1, Reason.code]
    · by_cases h2 : c.iteration + 1 = maxIt <;> simp [hev, h1, h2, Reason.code]

end
end MT.CodeRefine
